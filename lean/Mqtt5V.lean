import Mqtt5V.Props.C01
import Mqtt5V.Props.C02
import Mqtt5V.Props.C03
import Mqtt5V.Props.C04
import Mqtt5V.Props.C05
import Mqtt5V.Props.C06
import Mqtt5V.Props.C07
import Mqtt5V.Props.C08
import Mqtt5V.Props.C09
import Mqtt5V.Props.C10
import Mqtt5V.Props.C11
import Mqtt5V.Props.C12
import Mqtt5V.Props.C13
import Mqtt5V.Props.C14
import Mqtt5V.Props.C15
import Mqtt5V.Props.C16
import Mqtt5V.Props.C17
import Mqtt5V.Props.C18
import Mqtt5V.Props.C19
import Mqtt5V.Props.C20
/-! The whole library: the twenty property files import, between them, every model, specification and proof module. -/
