import Mqtt5V.Basic
/-! Well-formed UTF-8 exactly as Unicode Table 3-7 / RFC 3629 (the encoding MQTT 5 §1.5.4 requires),
the code points MQTT strings must not contain, and the topic grammars (§4.7) as recognisers
over code points.  Written from the standards, independent of the code's structure. -/
namespace Mqtt5V.Spec.Utf8

def inRange (lo hi b : Nat) : Bool := lo ≤ b && b ≤ hi

/-- decode one well-formed UTF-8 sequence (Table 3-7) from the front: code point and remaining bytes -/
def decodeOne : List Nat → Option (Nat × List Nat)
  | [] => none
  | b0 :: r =>
    if b0 ≤ 0x7F then some (b0, r)
    else if inRange 0xC2 0xDF b0 then
      match r with
      | b1 :: r1 => if inRange 0x80 0xBF b1 then some ((b0 - 0xC0) * 64 + (b1 - 0x80), r1) else none
      | _ => none
    else if inRange 0xE0 0xEF b0 then
      match r with
      | b1 :: b2 :: r2 =>
        let lo := if b0 = 0xE0 then 0xA0 else 0x80
        let hi := if b0 = 0xED then 0x9F else 0xBF
        if inRange lo hi b1 && inRange 0x80 0xBF b2 then
          some ((b0 - 0xE0) * 4096 + (b1 - 0x80) * 64 + (b2 - 0x80), r2)
        else none
      | _ => none
    else if inRange 0xF0 0xF4 b0 then
      match r with
      | b1 :: b2 :: b3 :: r3 =>
        let lo := if b0 = 0xF0 then 0x90 else 0x80
        let hi := if b0 = 0xF4 then 0x8F else 0xBF
        if inRange lo hi b1 && inRange 0x80 0xBF b2 && inRange 0x80 0xBF b3 then
          some ((b0 - 0xF0) * 262144 + (b1 - 0x80) * 4096 + (b2 - 0x80) * 64 + (b3 - 0x80), r3)
        else none
      | _ => none
    else none

theorem decodeOne_length {bs : List Nat} {c : Nat} {r : List Nat} (h : decodeOne bs = some (c, r)) :
    r.length < bs.length := by
  revert h
  fun_cases decodeOne bs
  all_goals intro h
  -- `injection`, not `cases`: unifying with `(b0 - 0xF0) * 262144 + ..` would unfold the numeral
  all_goals first
    | (injection h with h; injection h with _ h; subst h; simp only [List.length_cons]; omega)
    | (cases h; done)

/-- the whole string as code points; `none` when it is not well-formed UTF-8 -/
def decode (bs : List Nat) : Option (List Nat) :=
  if bs.isEmpty then some [] else
  match h : decodeOne bs with
  | none => none
  | some (c, r) => (decode r).map (c :: ·)
termination_by bs.length
decreasing_by exact decodeOne_length h

/-- code points an MQTT UTF-8 string may contain (property C16: no U+0000, no control characters, no non-characters) -/
def allowed (c : Nat) : Bool :=
  !(c = 0) && !(inRange 0x01 0x1F c) && !(inRange 0x7F 0x9F c) && !(inRange 0xFDD0 0xFDEF c)
    && !(c % 65536 = 0xFFFE) && !(c % 65536 = 0xFFFF)

def isWildcard (c : Nat) : Bool := c = 35 || c = 43

/-- UTF-8 Encoded String: ≤ 65535 bytes, well-formed, only allowed characters -/
def wellFormedString (bs : List Nat) : Prop :=
  bs.length ≤ 65535 ∧ ∃ cps, decode bs = some cps ∧ ∀ c ∈ cps, allowed c = true

/-- Topic Name: as a string, no wildcard characters, at least one byte unless a Topic Alias is used -/
def wellFormedTopicName (allowEmpty : Bool) (bs : List Nat) : Prop :=
  (allowEmpty = true ∨ bs ≠ []) ∧ bs.length ≤ 65535 ∧
    ∃ cps, decode bs = some cps ∧ ∀ c ∈ cps, allowed c = true ∧ isWildcard c = false

end Mqtt5V.Spec.Utf8
