import Mqtt5V.Model.TraceDisc
import Mqtt5V.Proofs.Lts
/-! The DISCONNECT rule at write level: the four steps the C09 statements turn on, inverted (guard and effect), and what the fields `count` and
`connected` of the state are in terms of the events. -/
namespace Mqtt5V.Proofs.TraceDisc
open Mqtt5V.Model.TraceDisc

theorem isRun : Lts.IsRun step run := ⟨fun _ => rfl, fun _ _ _ => rfl⟩

variable {s s' : S}

theorem step_wr : step s .wr = some s' ↔
    s.writing = false ∧ (s.connected = true → s.said = false) ∧ s' = { s with writing := true, count := 0, hasDisc := false } := by
  simp [step, and_assoc, eq_comm (a := s')]

theorem step_pkDisc : step s .pkDisc = some s' ↔ s.writing = true ∧ s.count = 0 ∧ s' = { s with count := 1, hasDisc := true } := by
  simp [step, and_assoc, eq_comm (a := s')]

theorem step_pkOther : step s .pkOther = some s' ↔ s.writing = true ∧ s.hasDisc = false ∧ s' = { s with count := s.count + 1 } := by
  simp [step, and_assoc, eq_comm (a := s')]

theorem step_wrOk : step s .wrOk = some s' ↔ s.writing = true ∧ s' = { s with writing := false, said := s.connected && s.hasDisc } := by
  simp [step, eq_comm (a := s')]

theorem count_packets {l : List Ev} (hl : ∀ e ∈ l, e = .pkOther ∨ e = .pkDisc) (h : run s l = some s') :
    s'.count = s.count + l.length := by
  induction l generalizing s with
  | nil => cases h; rfl
  | cons e es ih =>
    obtain ⟨s1, h1, h2⟩ := isRun.head h
    have := ih (fun x hx => hl x (List.mem_cons_of_mem _ hx)) h2
    rcases hl e List.mem_cons_self with rfl | rfl
    · obtain ⟨-, -, rfl⟩ := step_pkOther.mp h1
      rw [this, List.length_cons]; exact Nat.add_right_comm ..
    · obtain ⟨-, hc, rfl⟩ := step_pkDisc.mp h1      -- a DISCONNECT is accepted at `count = 0` only and makes it 1
      rw [this, hc, List.length_cons, Nat.zero_add]; exact Nat.add_comm 1 _

def ConnInv (hist : List Ev) (s : S) : Prop := s.connected = connectedOf hist

theorem step_connected {e : Ev} :
    step s e = some s' → s'.connected = (match e with | .connUp => true | .connDown => false | _ => s.connected) := by
  fun_cases step s e <;> intro h <;> cases h <;> rfl

/-- `ConnInv tr s` unfolds to the equation `s.connected = connectedOf tr`; C09 rewrites with it -/
theorem conn_reach {tr : List Ev} (h : run init tr = some s) : ConnInv tr s :=
  isRun.fold (·.connected) _ (fun _ _ _ => step_connected) h

/-- while the connection stays the same and nothing is written, "a DISCONNECT was written on this connection" stays true -/
theorem said_kept : ∀ (l : List Ev) (s s' : S), sameConn l → noWriteEv l → run s l = some s' →
    s'.said = s.said ∧ s'.connected = s.connected ∧ s'.writing = s.writing := by
  intro l s s' hc hw h
  cases l with
  | nil => cases h; exact ⟨rfl, rfl, rfl⟩
  | cons e es =>
    -- impossible: every event is a connection event or a write event
    have he := hc e List.mem_cons_self
    have hwe := hw e List.mem_cons_self
    cases e <;> simp at he hwe

end Mqtt5V.Proofs.TraceDisc
