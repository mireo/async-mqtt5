import Mqtt5V.Model.Enc
import Mqtt5V.Spec.Wire
/-! The strict specification parsers invert the encoder model's combinators (`Reads`), and the length of what a combinator
writes is the size the library computes for it (`*_length`).  The parsers are written with explicit `match`es, so a `Reads` fact is
used as the rewrite rule it unfolds to: `simp only` with the facts of a body's fields parses the body.  The rules want the bytes
right-nested (`List.append_assoc` in the set, else none fires), and the last field, with nothing behind it, wants `Reads.nil`
(`pProps_last` where the parser first looks whether anything is left).  Two combinators are read
back by something that is not a `P`, and their facts stand with their users in `Props/C17`: `propsEncode_true_cons` with `pProps_last`
here (`propsEncode true`), `decode_packet` (`packet`). -/
namespace Mqtt5V.Proofs.Enc
open Mqtt5V.Wire Mqtt5V.Model.Enc Mqtt5V.Spec.Wire Mqtt5V.Gen.PropTable

/-- the parser `p` reads the bytes `enc` back as `v`, whatever follows them -/
abbrev Reads {α} (p : P α) (enc : Bs) (v : α) : Prop := ∀ r, p (enc ++ r) = some (v, r)

theorem Reads.nil {α} {p : P α} {enc : Bs} {v : α} (h : Reads p enc v) : p enc = some (v, []) := by
  simpa using h []

theorem Reads.ne_nil {α} {p : P α} {enc : Bs} {v : α} (h : Reads p enc v) (hp : p [] = none) : enc ≠ [] := by
  intro e
  have := h.nil
  rw [e, hp] at this
  cases this

/-- `pItems`, `pSubTopics`, `pTopics` are each a recursion of their own, of one shape (end of input, else one item and a unit of
fuel less); `loop_nil` and `step` (one round on an encoded item, whatever follows it) are all the round trip needs of it.
An instance opens its loop for `step` by the function's third equation (`pItems.eq_3` …), which asks that the input is not empty. -/
theorem loop_roundtrip {α} {loop : Nat → Bs → Option (List α)} {enc : α → Bs} {encs : List α → Bs}
    (loop_nil : ∀ f, loop f [] = some []) (encs_nil : encs [] = []) (encs_cons : ∀ x xs, encs (x :: xs) = enc x ++ encs xs)
    (xs : List α) (step : ∀ x ∈ xs, enc x ≠ [] ∧ ∀ f r, loop (f + 1) (enc x ++ r) = (loop f r).map (x :: ·)) :
    ∀ fuel, (encs xs).length ≤ fuel → loop fuel (encs xs) = some xs := by
  induction xs with
  | nil => intro fuel _; rw [encs_nil, loop_nil]
  | cons x xs ih =>
    intro fuel hf
    obtain ⟨hne, hx⟩ := step x List.mem_cons_self
    have := List.length_pos_iff.mpr hne
    rw [encs_cons, List.length_append] at hf
    cases fuel with
    | zero => omega
    | succ fuel =>
      rw [encs_cons, hx, ih (fun y hy => step y (List.mem_cons_of_mem _ hy)) fuel (by omega)]
      rfl

/-- `bs` is the Variable Byte Integer of `n` in minimal form (§1.5.5): base-128 digits, least significant first, bit 7 set on
every byte but the last, no zero digit at the top.  The encoder writes it (`toVariableBytes_isVarint`, by induction along its loop);
the two decoders, each unrolled four deep, read any such numeral below 2^28 (`pVarint_reads` here, `varint_decodes` in
`DecRoundtrip`), with nothing but linear arithmetic on the digits. -/
inductive IsVarint : Bs → Nat → Prop
  | last {d : Nat} (h : d < 128) : IsVarint [d] d
  | cont {d v : Nat} {bs : Bs} (h : d < 128) (hv : 0 < v) (t : IsVarint bs v) : IsVarint ((d + 128) :: bs) (d + 128 * v)

theorem varLoop_isVarint : ∀ fuel n, n < 128 ^ (fuel + 1) → IsVarint (varLoop fuel n) n
  | 0, n, h => by
    rw [varLoop, Nat.mod_eq_of_lt h]
    exact .last h
  | fuel + 1, n, h => by
    rw [varLoop]
    split
    · have t := varLoop_isVarint fuel (n / 128) (Nat.div_lt_of_lt_mul (by rwa [Nat.pow_succ, Nat.mul_comm] at h))
      have := IsVarint.cont (Nat.mod_lt n (by decide : 128 > 0)) (by omega) t
      rwa [Nat.mod_add_div] at this
    · rw [Nat.mod_eq_of_lt (by omega)]
      exact .last (by omega)

theorem toVariableBytes_isVarint {n : Nat} (h : n ≤ 268435455) : IsVarint (toVariableBytes n) n := by
  rw [toVariableBytes, if_neg (by omega)]
  exact varLoop_isVarint 4 n (by omega)

/-- `variableLength`'s ladder names the size classes by their bounds; the top digit of a minimal numeral is not zero, which puts
`n` in the class of its length -/
theorem IsVarint.length_eq {bs : Bs} {n : Nat} (h : IsVarint bs n) (hn : n ≤ 268435455) : bs.length = variableLength n := by
  rw [variableLength, if_neg (by omega)]
  rcases h with ⟨h0⟩ | ⟨h0, hv, ⟨h1⟩ | ⟨h1, hv1, ⟨h2⟩ | ⟨h2, hv2, ⟨h3⟩ | ⟨h3, hv3, _⟩⟩⟩⟩
  · rw [if_neg (by omega), if_neg (by omega), if_neg (by omega)]; rfl
  · rw [if_neg (by omega), if_neg (by omega), if_pos (by omega)]; rfl
  · rw [if_neg (by omega), if_pos (by omega)]; rfl
  · rw [if_pos (by omega)]; rfl
  · omega

theorem toVariableBytes_length (n : Nat) : (toVariableBytes n).length = variableLength n := by
  by_cases h : n > 0xfffffff
  · simp only [toVariableBytes, variableLength, if_pos h, List.length_nil]
  · exact (toVariableBytes_isVarint (by omega)).length_eq (by omega)

theorem cont_not_lt (d : Nat) : ¬ d + 128 < 128 := by omega

theorem pVarint_reads {bs : Bs} {n : Nat} (h : IsVarint bs n) (hn : n ≤ 268435455) : Reads pVarint bs n := by
  intro r
  -- one case per length; in each the parser's tests on the bytes are the digits' bounds, and its sum is `n` written flat
  rcases h with ⟨h0⟩ | ⟨h0, hv, ⟨h1⟩ | ⟨h1, hv1, ⟨h2⟩ | ⟨h2, hv2, ⟨h3⟩ | ⟨h3, hv3, _⟩⟩⟩⟩
  · simp [pVarint, h0]
  · simp [pVarint, cont_not_lt, Nat.not_le.mpr h0, Nat.ne_of_gt hv, h1]
    omega
  · simp [pVarint, cont_not_lt, Nat.not_le.mpr h0, Nat.not_le.mpr h1, Nat.ne_of_gt hv1, h2]
    omega
  · simp [pVarint, cont_not_lt, Nat.not_le.mpr h0, Nat.not_le.mpr h1, Nat.not_le.mpr h2, Nat.ne_of_gt hv2, h3]
    omega
  · omega

/-- **Variable Byte Integer round trip** (and minimal form: the strict parser refuses non-minimal encodings) -/
theorem pVarint_roundtrip {n : Nat} (h : n ≤ 268435455) : Reads pVarint (toVariableBytes n) n :=
  pVarint_reads (toVariableBytes_isVarint h) h

theorem pU8_byte {n : Nat} (h : n < 256) : Reads pU8 [n] n := fun _ => if_pos h

theorem be16_value {n : Nat} (h : n < 65536) : n / 256 % 256 * 256 + n % 256 = n := by omega

theorem pU16_be16 {n : Nat} (h : n < 65536) : Reads pU16 (be16 n) n := by
  intro r
  simp only [be16, List.cons_append, List.nil_append, pU16, Nat.mod_lt _ (show 256 > 0 by decide), and_self, if_true, be16_value h]

theorem be32_value {n : Nat} (h : n < 4294967296) :
    ((n / 16777216 % 256 * 256 + n / 65536 % 256) * 256 + n / 256 % 256) * 256 + n % 256 = n := by omega

theorem pU32_be32 {n : Nat} (h : n < 4294967296) : Reads pU32 (be32 n) n := by
  intro r
  simp only [be32, List.cons_append, List.nil_append, pU32, Nat.mod_lt _ (show 256 > 0 by decide), and_self, if_true, be32_value h]

theorem pBin_lenPrefixed {s : Bs} (h : s.length ≤ 65535) : Reads pBin (lenPrefixed s) s := by
  intro r
  simp [pBin, lenPrefixed, pU16_be16 (show s.length < 65536 by omega)]

/-- a property value that fits its wire type -/
def WFVal : PVal → Prop
  | .u8 n => n < 256
  | .u16 n => n < 65536
  | .u32 n => n < 4294967296
  | .vint n => n ≤ 268435455
  | .str b => b.length ≤ 65535
  | .pair k v => k.length ≤ 65535 ∧ v.length ≤ 65535

def kindOfVal : PVal → Kind
  | .u8 _ => .u8 | .u16 _ => .u16 | .u32 _ => .u32 | .vint _ => .vint | .str _ => .str | .pair _ _ => .pair

theorem pVal_roundtrip {v : PVal} (h : WFVal v) : Reads (pVal (kindOfVal v)) (PVal.encode v) v := by
  intro r
  cases v with
  | u8 n => simp only [kindOfVal, pVal, PVal.encode, Nat.mod_eq_of_lt h, pU8_byte h r, Option.map_some]
  | u16 n => simp only [kindOfVal, pVal, PVal.encode, pU16_be16 h r, Option.map_some]
  | u32 n => simp only [kindOfVal, pVal, PVal.encode, pU32_be32 h r, Option.map_some]
  | vint n => simp only [kindOfVal, pVal, PVal.encode, pVarint_roundtrip h r, Option.map_some]
  | str b => simp only [kindOfVal, pVal, PVal.encode, pBin_lenPrefixed h r, Option.map_some]
  | pair k v => simp only [kindOfVal, pVal, PVal.encode, List.append_assoc, pBin_lenPrefixed h.1, pBin_lenPrefixed h.2, Option.map_some]

@[simp] theorem be16_length (n : Nat) : (be16 n).length = 2 := rfl

@[simp] theorem be32_length (n : Nat) : (be32 n).length = 4 := rfl

theorem lenPrefixed_length (s : Bs) : (lenPrefixed s).length = lenPrefixedSize s := by
  simp [lenPrefixed, lenPrefixedSize, Nat.add_comm]

theorem optLenPrefixed_length (u : Option Bs) : (optLenPrefixed u).length = optLenPrefixedSize u := by
  cases u
  · rfl
  · exact lenPrefixed_length _

theorem PVal_encode_length (v : PVal) : (PVal.encode v).length = PVal.size v := by
  cases v <;> simp [PVal.encode, PVal.size, lenPrefixed_length, toVariableBytes_length]

theorem propsBody_length (ps : Props) : (propsBody ps).length = propsBodySize ps := by
  induction ps with
  | nil => rfl
  | cons p ps ih => simp [propsBody, propsBodySize, propEncode, propSize, PVal_encode_length, ih]; omega

theorem propsEncode_length (m : Bool) (ps : Props) : (propsEncode m ps).length = propsSize m ps := by
  simp only [propsEncode, propsSize]
  split
  · rfl
  · simp [toVariableBytes_length, propsBody_length]; omega

theorem subTopicsBody_length (ts : List (Bs × SubOpts)) : (subTopicsBody ts).length = subTopicsSize ts := by
  induction ts with
  | nil => rfl
  | cons t ts ih => simp [subTopicsBody, subTopicsSize, lenPrefixed_length, ih]; omega

theorem unsubTopicsBody_length (ts : List Bs) : (unsubTopicsBody ts).length = unsubTopicsSize ts := by
  induction ts with
  | nil => rfl
  | cons t ts ih => simp [unsubTopicsBody, unsubTopicsSize, lenPrefixed_length, ih]

theorem connectBody_length (c : Bs) (u pw : Option Bs) (ka cs : Nat) (ps : Props) (w : Option Will) :
    (connectBody c u pw ka cs ps w).length = connectBodySize c u pw ps w := by
  unfold connectBody connectBodySize
  cases w <;> simp [lenPrefixed_length, optLenPrefixed_length, propsEncode_length] <;> omega

theorem ackBody_length (pid rc : Nat) (ps : Props) :
    (be16 pid ++ [rc % 256] ++ propsEncode true ps).length = 2 + 1 + propsSize true ps := by
  simp [propsEncode_length]; omega

theorem rcBody_length (rc : Nat) (ps : Props) : ([rc % 256] ++ propsEncode false ps).length = 1 + propsSize false ps := by
  simp [propsEncode_length]; omega

/-- `u`: the packet identifier `encodePublish` writes, or none at QoS 0 -/
theorem publishBody_length (topic payload : Bs) (u : Option Nat) (ps : Props) :
    (lenPrefixed topic ++ (match u with | some p => be16 p | none => []) ++ propsEncode false ps ++ payload).length =
      lenPrefixedSize topic + (match u with | some _ => 2 | none => 0) + propsSize false ps + payload.length := by
  cases u <;> simp [lenPrefixed_length, propsEncode_length] <;> omega

theorem subscribeBody_length (pid : Nat) (ts : List (Bs × SubOpts)) (ps : Props) :
    (be16 pid ++ propsEncode false ps ++ subTopicsBody ts).length = 2 + propsSize false ps + subTopicsSize ts := by
  simp [propsEncode_length, subTopicsBody_length]; omega

theorem unsubscribeBody_length (pid : Nat) (ts : List Bs) (ps : Props) :
    (be16 pid ++ propsEncode false ps ++ unsubTopicsBody ts).length = 2 + propsSize false ps + unsubTopicsSize ts := by
  simp [propsEncode_length, unsubTopicsBody_length]; omega

/-- a property the given packet type may carry, well-typed per the standard's table, with a value that fits -/
def WFProp (allowed : List Nat) (p : Property) : Prop :=
  p.id < 256 ∧ allowed.contains p.id = true ∧ Spec.Wire.kindOf p.id = some (kindOfVal p.val) ∧ WFVal p.val

theorem pProperty_roundtrip {allowed : List Nat} {p : Property} (h : WFProp allowed p) :
    Reads (pProperty allowed) (propEncode p) p := by
  intro r
  obtain ⟨h1, h2, h3, h4⟩ := h
  simp only [propEncode, List.cons_append, pProperty, Nat.mod_eq_of_lt h1, h2, if_true, h3, pVal_roundtrip h4 r, Option.map_some]

theorem pItems_roundtrip (allowed : List Nat) (ps : Props) (h : ∀ p ∈ ps, WFProp allowed p) :
    ∀ fuel, (propsBody ps).length ≤ fuel → pItems allowed fuel (propsBody ps) = some ps :=
  loop_roundtrip (enc := propEncode) (fun f => by cases f <;> rfl) rfl (fun _ _ => rfl) ps fun p hp =>
    have hne : propEncode p ≠ [] := List.cons_ne_nil _ _
    ⟨hne, fun f r => by rw [pItems.eq_3 _ _ _ (List.append_ne_nil_of_left_ne_nil hne r), pProperty_roundtrip (h p hp) r]⟩

/-- a property list the given packet type may carry -/
structure WFProps (allowed repeatable : List Nat) (ps : Props) : Prop where
  each : ∀ p ∈ ps, WFProp allowed p
  norep : noRepeatViolation repeatable ps = true
  size : propsBodySize ps ≤ 268435455

/-- **property block round trip** (Property Length always present) -/
theorem pProps_roundtrip {allowed rep : List Nat} {ps : Props} (h : WFProps allowed rep ps) :
    Reads (pProps allowed rep) (propsEncode false ps) ps := by
  intro r
  simp only [pProps, propsEncode, Bool.false_and, Bool.false_eq_true, if_false, List.append_assoc, pVarint_roundtrip h.size]
  simp only [← propsBody_length, List.length_append, Nat.le_add_right, if_true, List.take_left', List.drop_left',
    pItems_roundtrip allowed ps h.each _ (Nat.le_refl _), h.norep]

/-- for a property block that ends a body: the parsers there first look whether anything is left, so the bytes are wanted as a cons -/
theorem pProps_last {allowed rep : List Nat} {ps : Props} (h : WFProps allowed rep ps) :
    ∃ x xs, propsEncode false ps = x :: xs ∧ pProps allowed rep (x :: xs) = some (ps, []) := by
  obtain ⟨x, xs, hx⟩ := List.exists_cons_of_ne_nil (Reads.ne_nil (pProps_roundtrip h) rfl)
  exact ⟨x, xs, hx, hx ▸ Reads.nil (pProps_roundtrip h)⟩

end Mqtt5V.Proofs.Enc
