import Mqtt5V.Proofs.Trace
/-! Truthfulness invariant of the composed outbound model: every phase of an exchange is backed by a chain of earlier events
(request written, acknowledgements read, PUBREL written); `success_truthful` is the statement behind C01 and C14. -/
namespace Mqtt5V.Proofs.Trace
open Mqtt5V.Model.Trace

theorem chain_mono {Ps : List (Ev → Prop)} {h : List Ev} (t : List Ev) (c : Chain Ps h) : Chain Ps (h ++ t) := by
  induction Ps generalizing h with
  | nil => trivial
  | cons P Ps ih =>
    obtain ⟨h1, e, h2, rfl, hP, c2⟩ := c
    exact ⟨h1, e, h2 ++ t, by simp, hP, ih c2⟩

theorem chain_snoc {Ps : List (Ev → Prop)} {h : List Ev} {P : Ev → Prop} {e : Ev} (c : Chain Ps h) (hP : P e) :
    Chain (Ps ++ [P]) (h ++ [e]) := by
  induction Ps generalizing h with
  | nil => exact ⟨h, e, [], by simp, hP, trivial⟩
  | cons Q Qs ih =>
    obtain ⟨h1, e1, h2, rfl, hQ, c2⟩ := c
    exact ⟨h1, e1, h2 ++ [e], by simp, hQ, ih c2⟩

theorem chain_prefix {Ps Qs : List (Ev → Prop)} {h : List Ev} (c : Chain (Ps ++ Qs) h) : Chain Ps h := by
  induction Ps generalizing h with
  | nil => trivial
  | cons P Ps ih =>
    obtain ⟨h1, e, h2, rfl, hP, c2⟩ := c
    exact ⟨h1, e, h2, rfl, hP, ih c2⟩

/-- a QoS 2 exchange past its PUBLISH stage: the history has its request, then a successful PUBREC, then `Ps` -/
def RelOK (hist : List Ev) (p : Nat) (sl : Slot) (Ps : List (Ev → Prop)) : Prop :=
  sl.kind = .pub2 ∧ ∃ r, okRec p sl.n r ∧ Chain (isReq sl.op p :: isRx r :: Ps) hist

theorem RelOK.mono {hist : List Ev} (t : List Ev) {p : Nat} {sl : Slot} {Ps : List (Ev → Prop)} (h : RelOK hist p sl Ps) : RelOK (hist ++ t) p sl Ps :=
  ⟨h.1, h.2.imp fun _ hr => ⟨hr.1, chain_mono t hr.2⟩⟩

theorem RelOK.snoc {hist : List Ev} {p : Nat} {sl : Slot} {Ps : List (Ev → Prop)} {P : Ev → Prop} {e : Ev} (h : RelOK hist p sl Ps) (hP : P e) :
    RelOK (hist ++ [e]) p sl (Ps ++ [P]) :=
  ⟨h.1, h.2.imp fun r hr => ⟨hr.1, chain_snoc (Ps := isReq sl.op p :: isRx r :: Ps) hr.2 hP⟩⟩

/-- whatever came after the PUBREC may be forgotten: what is left backs `relIdle` -/
theorem RelOK.base {hist : List Ev} {p : Nat} {sl : Slot} {Ps : List (Ev → Prop)} (h : RelOK hist p sl Ps) : RelOK hist p sl [] :=
  ⟨h.1, h.2.imp fun r hr => ⟨hr.1, chain_prefix (Ps := [isReq sl.op p, isRx r]) (Qs := Ps) hr.2⟩⟩

/-- the evidence the history holds for the phase of the slot at identifier `p`: the events that led there, in order.  (`idle` asks for
nothing: the next request packet starts the chain afresh.) -/
def PhaseOK (hist : List Ev) (p : Nat) (sl : Slot) : Prop :=
  match sl.phase with
  | .idle => True
  | .writing | .waiting => Chain [isReq sl.op p] hist
  | .relIdle => RelOK hist p sl []
  | .relWriting | .relWaiting => RelOK hist p sl [isRel p]
  | .finished rcs props => Truthful hist sl.op p sl.kind sl.n rcs props

/-- … and for the fast reply: it was read after the packet still being written, and is what the wait after this write expects; there is
none outside `writing` / `relWriting` -/
def FastOK (hist : List Ev) (p : Nat) (sl : Slot) : Prop :=
  ∀ a, sl.fast = some a → expects sl.kind sl.phase = some a.t ∧ a.pid = p ∧
    (match sl.phase with
     | .writing => Chain [isReq sl.op p, isRx a] hist
     | .relWriting => RelOK hist p sl [isRel p, isRx a]
     | _ => False)

/-- what the truthfulness invariant says of one slot; `init` is there because `Truthful` is about the kind and topic count of the API call -/
structure SlotOK (hist : List Ev) (p : Nat) (sl : Slot) : Prop where
  init : Ev.init sl.op sl.kind sl.n ∈ hist
  phase : PhaseOK hist p sl
  fast : FastOK hist p sl

def TruthInv (hist : List Ev) (s : S) : Prop := ∀ p sl, s.slot p = some sl → SlotOK hist p sl

theorem truthful_mono {hist : List Ev} (t : List Ev) {op p k n rcs props} (h : Truthful hist op p k n rcs props) :
    Truthful (hist ++ t) op p k n rcs props := by
  rcases h with ⟨a, c, h⟩ | ⟨hk, r, a, hr, c, h⟩
  · exact Or.inl ⟨a, chain_mono t c, h⟩
  · exact Or.inr ⟨hk, r, a, hr, chain_mono t c, h⟩

theorem phaseOK_mono {hist : List Ev} (t : List Ev) {p : Nat} {sl : Slot} (h : PhaseOK hist p sl) : PhaseOK (hist ++ t) p sl := by
  cases hph : sl.phase with
  | idle => simp only [PhaseOK, hph]
  | writing | waiting => simp only [PhaseOK, hph] at h ⊢; exact chain_mono t h
  | relIdle | relWriting | relWaiting => simp only [PhaseOK, hph] at h ⊢; exact h.mono t
  | finished rcs props => simp only [PhaseOK, hph] at h ⊢; exact truthful_mono t h

theorem fastOK_mono {hist : List Ev} (t : List Ev) {p : Nat} {sl : Slot} (h : FastOK hist p sl) : FastOK (hist ++ t) p sl := by
  intro a ha
  obtain ⟨h1, h2, h3⟩ := h a ha
  refine ⟨h1, h2, ?_⟩
  cases hph : sl.phase with
  | writing => simp only [hph] at h3 ⊢; exact chain_mono t h3
  | relWriting => simp only [hph] at h3 ⊢; exact h3.mono t
  | _ => simp only [hph] at h3      -- `h3` is `False`: no fast reply in these phases

theorem SlotOK.mono {hist : List Ev} (t : List Ev) {p : Nat} {sl : Slot} (h : SlotOK hist p sl) : SlotOK (hist ++ t) p sl :=
  ⟨List.mem_append_left _ h.init, phaseOK_mono t h.phase, fastOK_mono t h.fast⟩

theorem SlotOK.move {hist : List Ev} {p : Nat} {sl sl' : Slot} (h : SlotOK hist p sl) (hs : SameEx sl sl')
    (hok : PhaseOK hist p sl' ∧ FastOK hist p sl') : SlotOK hist p sl' :=
  ⟨by rw [hs.op, hs.kind, hs.n]; exact h.init, hok.1, hok.2⟩

theorem consume_fast (sl : Slot) (a : Ack) : (consume sl a).fast = none := by
  unfold consume; repeat' split
  all_goals rfl

theorem fastOK_of_none {H : List Ev} {p : Nat} {sl : Slot} (h : sl.fast = none) : FastOK H p sl := by
  intro a ha; rw [h] at ha; cases ha

theorem expects_writing (k : Kind) : expects k .writing = expects k .waiting ∧ expects k .relWriting = expects k .relWaiting := by
  cases k <;> exact ⟨rfl, rfl⟩

theorem expects_waiting_main {k : Kind} {t : AckT} (h : expects k .waiting = some t) : mainAck k = some t := by
  cases k <;> simp [expects] at h <;> simp [mainAck, h]

theorem consume_waiting {H : List Ev} {p : Nat} {sl : Slot} {a : Ack} (hph : sl.phase = .waiting)
    (hex : expects sl.kind .waiting = some a.t) (hp : a.pid = p) (c : Chain [isReq sl.op p, isRx a] H) :
    PhaseOK H p (consume sl a) := by
  have hm := expects_waiting_main hex
  unfold consume
  split
  · rename_i hg      -- a good acknowledgement
    split
    · rename_i ht    -- a PUBREC: the exchange is QoS 2
      have hk : sl.kind = .pub2 := by
        cases hk : sl.kind <;> simp [expects, hk, ht] at hex <;> rfl
      split
      · rename_i hall      -- all codes below 0x80: on to `relIdle`
        simp only [PhaseOK]
        exact ⟨hk, a, ⟨ht, hp, hg, hall⟩, c⟩
      · rename_i hall      -- a failing PUBREC ends the exchange
        simp only [PhaseOK]
        exact Or.inl ⟨a, c, hp, hg, rfl, Or.inr ⟨hk, ht, by simpa using hall, rfl⟩⟩
    · rename_i ht    -- PUBACK / SUBACK / UNSUBACK: `finished`
      simp only [PhaseOK]
      refine Or.inl ⟨a, c, hp, hg, rfl, Or.inl ⟨hm, ?_, rfl⟩⟩
      intro hk; rw [hk] at hm; simp [mainAck] at hm; exact ht hm.symm
  · simp only [hph, PhaseOK]      -- malformed: back to `idle`, which asks for nothing

theorem consume_relWaiting {H : List Ev} {p : Nat} {sl : Slot} {a : Ack} (hph : sl.phase = .relWaiting)
    (hex : expects sl.kind .relWaiting = some a.t) (hp : a.pid = p) (h : RelOK H p sl [isRel p, isRx a]) :
    PhaseOK H p (consume sl a) := by
  unfold consume
  split
  · rename_i hg      -- a good PUBCOMP: `finished`, with the whole chain
    obtain ⟨hk, r, hr, c⟩ := h
    have ht : a.t = .pubcomp := by rw [hk] at hex; simp [expects] at hex; exact hex.symm
    simp only [ht, PhaseOK]
    exact Or.inr ⟨hk, r, a, hr, c, ht, hp, hg, rfl, rfl⟩
  · simp only [hph, PhaseOK]      -- malformed: back to `relIdle`
    exact h.base

/-! The end of a write and a new connection bring no new evidence: each slot keeps its chain or falls back to a shorter one. -/

theorem onWrOk_truth {hist : List Ev} {p : Nat} {sl : Slot} (h : SlotOK hist p sl) : SlotOK hist p sl.onWrOk := by
  refine h.move (onWrOk_same sl) ?_
  obtain ⟨-, h1, h2⟩ := h
  unfold Slot.onWrOk
  split
  · rename_i hph
    split
    · rename_i a ha      -- the fast reply is consumed as an acknowledgement read while waiting would be
      obtain ⟨hex, hp, hc⟩ := h2 a ha
      simp only [hph] at hc hex
      -- the slot named here is what `Slot.onWrOk`'s `let s1` unfolds to in this branch (and below); it has to be given, and to match
      exact ⟨consume_waiting (sl := { sl with phase := .waiting, okBefore := true }) rfl ((expects_writing _).1 ▸ hex) hp hc,
        fastOK_of_none (consume_fast _ _)⟩
    · rename_i ha
      simp only [PhaseOK, hph] at h1 ⊢
      exact ⟨h1, fastOK_of_none ha⟩
  · rename_i hph
    split
    · rename_i a ha
      obtain ⟨hex, hp, hc⟩ := h2 a ha
      simp only [hph] at hc hex
      exact ⟨consume_relWaiting (sl := { sl with phase := .relWaiting }) rfl ((expects_writing _).2 ▸ hex) hp hc,
        fastOK_of_none (consume_fast _ _)⟩
    · rename_i ha
      simp only [PhaseOK, hph] at h1 ⊢
      exact ⟨h1, fastOK_of_none ha⟩
  · exact ⟨h1, h2⟩

theorem onWrFail_truth {hist : List Ev} {p : Nat} {sl : Slot} (h : SlotOK hist p sl) : SlotOK hist p sl.onWrFail := by
  refine h.move (onWrFail_same sl) ?_
  obtain ⟨-, h1, h2⟩ := h
  unfold Slot.onWrFail
  split
  · exact ⟨by simp only [PhaseOK], fastOK_of_none rfl⟩
  · rename_i hph
    simp only [PhaseOK, hph] at h1 ⊢
    exact ⟨h1.base, fastOK_of_none rfl⟩
  · exact ⟨h1, h2⟩

theorem onConnUp_truth {hist : List Ev} {p : Nat} {sl : Slot} (h : SlotOK hist p sl) : SlotOK hist p sl.onConnUp := by
  refine h.move (onConnUp_same sl) ?_
  obtain ⟨-, h1, h2⟩ := h
  unfold Slot.onConnUp
  split
  · rename_i hph
    refine ⟨by simp only [PhaseOK], fun a ha => ?_⟩
    -- a waiting slot has no fast reply: `FastOK` is `False` of one there
    obtain ⟨_, _, h3⟩ := h2 a ha; simp only [hph] at h3
  · rename_i hph
    simp only [PhaseOK, hph] at h1 ⊢
    refine ⟨h1.base, fun a ha => ?_⟩
    obtain ⟨_, _, h3⟩ := h2 a ha; simp only [hph] at h3
  · exact ⟨h1, h2⟩

theorem onRx_truth {hist : List Ev} {a : Ack} {sl : Slot} (h : SlotOK hist a.pid sl) : SlotOK (hist ++ [.rx a]) a.pid (sl.onRx a) := by
  refine (h.mono _).move (onRx_same sl a) ?_
  obtain ⟨-, h1, h2⟩ := h
  have hrx : isRx a (.rx a) := rfl
  unfold Slot.onRx
  split
  · rename_i hex      -- the acknowledgement is of the expected type
    split
    · rename_i hph    -- waiting for it: consumed
      simp only [PhaseOK, hph] at h1
      rw [hph] at hex
      exact ⟨consume_waiting hph hex rfl (chain_snoc (Ps := [isReq sl.op a.pid]) h1 hrx), fastOK_of_none (consume_fast _ _)⟩
    · rename_i hph    -- waiting for the PUBCOMP: consumed
      simp only [PhaseOK, hph] at h1
      rw [hph] at hex
      exact ⟨consume_relWaiting hph hex rfl (h1.snoc hrx), fastOK_of_none (consume_fast _ _)⟩
    · rename_i hnw hnr      -- the request is still being written: kept as fast reply, if it is the first
      split
      · rename_i hnone
        refine ⟨phaseOK_mono _ h1, ?_⟩
        intro a' ha'
        simp only [Option.some.injEq] at ha'; subst ha'
        refine ⟨hex, rfl, ?_⟩
        -- the phase is writing or relWriting (the only other phases in which something is expected)
        cases hph : sl.phase with
        | writing =>
          simp only [PhaseOK, hph] at h1 ⊢
          exact chain_snoc (Ps := [isReq sl.op a.pid]) h1 hrx
        | relWriting =>
          simp only [PhaseOK, hph] at h1 ⊢
          exact h1.snoc hrx
        | waiting => exact absurd hph hnw
        | relWaiting => exact absurd hph hnr
        | _ => rw [hph] at hex; cases hk : sl.kind <;> simp [expects, hk] at hex
      · exact ⟨phaseOK_mono _ h1, fastOK_mono _ h2⟩
  · exact ⟨phaseOK_mono _ h1, fastOK_mono _ h2⟩

theorem truth_upd {hist : List Ev} {s : S} (e : Ev) (I : TruthInv hist s) {p : Nat} {o : Option Slot}
    (hok : ∀ sl', o = some sl' → SlotOK (hist ++ [e]) p sl') : ∀ q sl, upd s.slot p o q = some sl → SlotOK (hist ++ [e]) q sl := by
  intro q sl h; simp only [upd] at h
  split at h
  · rename_i hq; exact hq ▸ hok sl h
  · exact (I q sl h).mono [e]

theorem truth_map {hist : List Ev} {s : S} (e : Ev) (I : TruthInv hist s) {f : Slot → Slot}
    (hok : ∀ p sl, SlotOK hist p sl → SlotOK hist p (f sl)) : ∀ q sl, (s.slot q).map f = some sl → SlotOK (hist ++ [e]) q sl := by
  intro q sl h
  obtain ⟨sl0, h0, rfl⟩ := Option.map_eq_some_iff.1 h
  exact (hok q sl0 (I q sl0 h0)).mono [e]

-- `K` is needed at `first` only (the kind and topic count a new slot takes from `known` are those of an `init` event), so the two
-- invariants are carried as a pair in `truthInv_reach` instead of making `InitInv` part of every slot lemma
theorem truthInv_step (hist : List Ev) (s : S) (e : Ev) (s' : S) (K : InitInv hist s) (I : TruthInv hist s) (h : step s e = some s') :
    TruthInv (hist ++ [e]) s' := by
  cases Step.of_step h with
  | connUp rm => exact truth_map _ I fun _ _ => onConnUp_truth
  | wrOk hw => exact truth_map _ I fun _ _ => onWrOk_truth
  | wrFail hw => exact truth_map _ I fun _ _ => onWrFail_truth
  | rx a =>
    refine truth_upd _ I fun sl' hsl => ?_
    obtain ⟨sl, hs, rfl⟩ := Option.map_eq_some_iff.1 hsl
    exact onRx_truth (I _ sl hs)
  | first pk op pid body k n a g =>
    refine truth_upd _ I fun sl' hsl => ?_
    cases hsl
    exact ⟨List.mem_append_left _ (K.known op k n g.known), chain_snoc (Ps := []) trivial ⟨pk, rfl, g.req⟩, fastOK_of_none rfl⟩
  | resend pk op pid body sl a g =>
    refine truth_upd _ I fun sl' hsl => ?_
    cases hsl
    exact ((I pid sl g.slot).mono _).move ⟨rfl, rfl, rfl, id⟩ ⟨chain_snoc (Ps := []) trivial ⟨pk, rfl, g.own ▸ g.req⟩, fastOK_of_none rfl⟩
  | rel pid sl hw hs hk hph =>
    refine truth_upd _ I fun sl' hsl => ?_
    cases hsl
    refine ((I pid sl hs).mono _).move ⟨rfl, rfl, rfl, id⟩ ⟨?_, fastOK_of_none rfl⟩
    have h1 := (I pid sl hs).phase
    simp only [PhaseOK, hph] at h1 ⊢
    exact h1.snoc (Ps := []) rfl
  | doneOk => exact truth_upd _ I (by intro _ hsl; cases hsl)
  | doneFree => exact truth_upd _ I (by intro _ hsl; cases hsl)
  | _ => exact fun p sl hs => (I p sl hs).mono _

theorem truthInv_reach {tr : List Ev} {s : S} (h : run init tr = some s) : TruthInv tr s :=
  (isRun.reach (fun h s => InitInv h s ∧ TruthInv h s) ⟨⟨by simp [init], by simp⟩, by intro p sl h; simp [init] at h⟩
    (fun h s e s' I hs => ⟨initInv_step h s e s' I.1 hs, truthInv_step h s e s' I.1 I.2 hs⟩) h).2

/-- C01 / C14, success is truthful; in the client's terms at `Props.C01.composed_publish_success_truthful`, `Props.C14.composed_subscribe_success_truthful` -/
theorem success_truthful {pre post : List Ev} {op : Nat} {rcs : List Nat} {props : Nat}
    (hacc : accepts (pre ++ .doneOk op rcs props :: post) = true) :
    ∃ p k n, Ev.init op k n ∈ pre ∧ p ≠ 0 ∧ Truthful pre op p k n rcs props := by
  obtain ⟨s1, s2, hr, hst⟩ := isRun.isSome_mid hacc
  cases Step.of_step hst with
  | doneOk _ _ _ p sl hnd hc hp hs hop hph =>
    have T := truthInv_reach hr p sl hs
    have hT := T.phase
    simp only [PhaseOK, hph] at hT
    exact ⟨p, sl.kind, sl.n, hop ▸ T.init, fun h0 => (idInv_reach hr).pid_ne op (h0 ▸ hp), hop ▸ hT⟩

end Mqtt5V.Proofs.Trace
