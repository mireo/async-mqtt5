import Mqtt5V.Model.TraceDiscT
import Mqtt5V.Proofs.Lts
/-! The time limit of `async_disconnect`: the state is the pair an observer computes from the events (`obs`), so an event is accepted after
`tr` exactly when its guard holds of that pair. -/
namespace Mqtt5V.Proofs.TraceDiscT
open Mqtt5V.Model.TraceDiscT Mqtt5V.Gen.Timing

theorem isRun : Lts.IsRun step run := ⟨fun _ => rfl, fun _ _ _ => rfl⟩

variable {s s' : S}

theorem step_adv {ms : Nat} : (step s (.adv ms)).isSome ↔ ∀ t0, s.pending = some t0 → s.now < t0 + disconnectLimitMs := by
  obtain ⟨now, _ | t0⟩ := s <;> simp [step]

theorem step_obs {e : Ev} (h : step s e = some s') : (s'.now, s'.pending) = obsStep (s.now, s.pending) e := by
  revert h
  fun_cases step s e <;> intro h <;> cases h <;> rfl

theorem reach {tr : List Ev} (h : run init tr = some s) : s = ⟨(obs tr).1, (obs tr).2⟩ := by
  have : (s.now, s.pending) = obs tr := isRun.fold (fun s => (s.now, s.pending)) obsStep (fun _ _ _ => step_obs) h
  rw [← this]

theorem last {tr : List Ev} {e : Ev} (h : accepts (tr ++ [e]) = true) : (step ⟨(obs tr).1, (obs tr).2⟩ e).isSome := by
  obtain ⟨s, s', h1, h2⟩ := isRun.isSome_mid h
  rw [← reach h1, h2]; rfl

end Mqtt5V.Proofs.TraceDiscT
