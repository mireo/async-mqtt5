import Mqtt5V.Model.PropsText
/-! The content of the library's property container (`canon`) is a fixed point of "assign in order, read back". -/
namespace Mqtt5V.Proofs.Canon
open Mqtt5V.Wire Mqtt5V.Gen.PropTable Mqtt5V.Model.PropsText

/-- what a slot keeps of the values assigned to it, in order: all of them if it is a repeatable one, else the last -/
def keep (id : Nat) (mine : Props) : Props :=
  match kindOf id with
  | some (_, true) => mine
  | _ => match mine.getLast? with | some p => [p] | none => []

/-- slot `id` of the container after assigning `ps` in order; `canon` is the slots one after the other (`canon_eq`) -/
def part (ps : Props) (id : Nat) : Props := keep id (ps.filter fun p => p.id == id)

theorem canon_eq (order : List Nat) (ps : Props) : canon order ps = order.flatMap (part ps) := rfl

theorem mem_keep {id : Nat} {l : Props} {p : Property} (h : p ∈ keep id l) : p ∈ l := by
  unfold keep at h
  split at h
  · exact h
  · split at h
    · next q hq => rw [List.mem_singleton.mp h]; exact List.mem_of_getLast? hq
    · cases h

theorem keep_idem (id : Nat) (l : Props) : keep id (keep id l) = keep id l := by
  unfold keep
  rcases kindOf id with _ | ⟨k, _ | _⟩
  · cases l.getLast? <;> rfl
  · cases l.getLast? <;> rfl
  · rfl

theorem mem_part {ps : Props} {id : Nat} {p : Property} (h : p ∈ part ps id) : p ∈ ps ∧ p.id = id := by
  have := List.mem_filter.mp (mem_keep h)
  exact ⟨this.1, by simpa using this.2⟩

theorem part_filter_self (ps : Props) (id : Nat) : (part ps id).filter (fun p => p.id == id) = part ps id :=
  List.filter_eq_self.mpr fun _ hp => by simp [(mem_part hp).2]

theorem part_filter_other (ps : Props) {id x : Nat} (h : x ≠ id) : (part ps x).filter (fun p => p.id == id) = [] :=
  List.filter_eq_nil_iff.mpr fun _ hp => by simp [(mem_part hp).2, h]

theorem filter_canon (order : List Nat) (ps : Props) (id : Nat) (hn : order.Nodup) (hm : id ∈ order) :
    (canon order ps).filter (fun p => p.id == id) = part ps id := by
  rw [canon_eq, List.filter_flatMap]
  induction order with
  | nil => cases hm
  | cons x r ih =>
    obtain ⟨hx, hr⟩ := List.nodup_cons.mp hn
    rw [List.flatMap_cons]
    by_cases hxi : x = id
    · subst hxi
      rw [part_filter_self, List.flatMap_eq_nil_iff.mpr fun y hy => part_filter_other ps (fun e : y = x => hx (e ▸ hy)), List.append_nil]
    · rw [part_filter_other ps hxi, List.nil_append]
      exact ih hr ((List.mem_cons.mp hm).resolve_left (Ne.symm hxi))

/-- what the container holds is a fixed point: decoding the re-encoded content gives the same content -/
theorem canon_idem (order : List Nat) (ps : Props) (hn : order.Nodup) : canon order (canon order ps) = canon order ps := by
  -- slot by slot: a slot finds in the container what it kept (`filter_canon`), and keeps all of it again (`keep_idem`)
  have slot : ∀ id ∈ order, part (canon order ps) id = part ps id := fun id hid => by
    rw [part, filter_canon order ps id hn hid, part, keep_idem]
  rw [canon_eq order (canon order ps), List.flatMap_def, List.map_congr_left slot, ← List.flatMap_def, ← canon_eq]

theorem mem_canon (order : List Nat) (ps : Props) (p : Property) (h : p ∈ canon order ps) : p ∈ ps := by
  rw [canon_eq] at h
  obtain ⟨id, _, hp⟩ := List.mem_flatMap.mp h
  exact (mem_part hp).1

end Mqtt5V.Proofs.Canon
