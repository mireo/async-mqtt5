import Mqtt5V.Model.Mutex
import Mqtt5V.Proofs.Lts
/-! Invariant of the async_mutex model with its history bookkeeping, preserved by every legal step.  Every step that moves
a waiter has one shape (`GInv.move`): some waiters arrive, some are handed the lock from the front of the queue, some are taken out of the
queue and aborted; the operations differ in which, and in what they do to the lock flag.  The other steps only shuffle posted tasks and
trace (`GInv.keep`). -/
namespace Mqtt5V.Proofs.Mutex
open Mqtt5V.Model.Mutex

def pendingAborts (p : List Task) : List Nat :=
  p.filterMap fun t => match t with | .ev (.abort w) => some w | _ => none

def notIn (l : List Nat) (w : Nat) : Bool := !l.contains w

/-- What holds of the mutex and its bookkeeping after every legal history.  Queue: waiter ids are fresh (`nodupA`), only waiters that
arrived are aborted (`abSub`), and `part` is the fairness statement: granted so far, then the live queue, is the arrival sequence
without the aborted ones, in order.  Lock flag: an unlocked mutex has an empty deque (`unlockedEmpty`); `pend` says at most one grant
is posted and not run, namely the last one handed out, and exactly while the lock is taken and not yet delivered (`lockedNe` makes
"the last one" exist).  History: the grants run or posted are `grantedP` in order (`tr`); the aborts run or posted have no
repetition (`abNodup`) and are all recorded in `abortedP` (`abIn`). -/
structure GInv (g : G) : Prop where
  nodupA : g.arrival.Nodup
  part : g.grantedP ++ live g.m.waiting = g.arrival.filter (notIn g.abortedP)
  abSub : ∀ w ∈ g.abortedP, w ∈ g.arrival
  unlockedEmpty : g.m.locked = false → g.m.waiting = [] ∧ g.delivered = false
  pend : pendingGrants g.m.posted = if g.m.locked && !g.delivered then g.grantedP.getLast?.toList else []
  lockedNe : g.m.locked = true → g.grantedP ≠ []
  tr : grantsOf g.trace ++ pendingGrants g.m.posted = g.grantedP
  abNodup : (abortsOf g.trace ++ pendingAborts g.m.posted).Nodup
  abIn : ∀ w ∈ abortsOf g.trace ++ pendingAborts g.m.posted, w ∈ g.abortedP

@[simp] theorem notIn_eq_true {l : List Nat} {w : Nat} : notIn l w = true ↔ w ∉ l := by simp [notIn]

theorem mem_live {q : List (Option Nat)} {w : Nat} : w ∈ live q ↔ some w ∈ q := by
  simp [live]

@[simp] theorem live_nil : live [] = [] := rfl
@[simp] theorem live_cons_some (w : Nat) (q) : live (some w :: q) = w :: live q := rfl
@[simp] theorem live_cons_none (q) : live (none :: q) = live q := rfl
@[simp] theorem live_append (a b) : live (a ++ b) = live a ++ live b := by simp [live]

@[simp] theorem filter_notIn_nil (l : List Nat) : l.filter (notIn []) = l := by simp [notIn]

theorem unlockQ_spec (q : List (Option Nat)) :
    (∀ w, (unlockQ q).1 = some w → live q = w :: live (unlockQ q).2) ∧
    ((unlockQ q).1 = none → live q = [] ∧ (unlockQ q).2 = []) := by
  induction q with
  | nil => simp [unlockQ]
  | cons x r ih =>
    cases x with
    | none => simpa [unlockQ] using ih
    | some v => simp [unlockQ]

theorem live_clearSlot (w : Nat) (q : List (Option Nat)) :
    live (clearSlot w q) = (live q).filter (notIn [w]) := by
  simp only [live, clearSlot, List.filterMap_map, List.filter_filterMap]
  congr 1; funext x; cases x <;> simp [notIn, Option.filter]

@[simp] theorem pendingGrants_nil : pendingGrants [] = [] := rfl
@[simp] theorem pendingGrants_cons (t r) :
    pendingGrants (t :: r) = (match t with | .ev (.grant w) => [w] | _ => []) ++ pendingGrants r := by
  cases t with
  | emit w => rfl
  | ev e => cases e <;> rfl
@[simp] theorem pendingGrants_append (a b) : pendingGrants (a ++ b) = pendingGrants a ++ pendingGrants b := by
  simp [pendingGrants]
@[simp] theorem pendingAborts_nil : pendingAborts [] = [] := rfl
@[simp] theorem pendingAborts_cons (t r) :
    pendingAborts (t :: r) = (match t with | .ev (.abort w) => [w] | _ => []) ++ pendingAborts r := by
  cases t with
  | emit w => rfl
  | ev e => cases e <;> rfl
@[simp] theorem pendingAborts_append (a b) : pendingAborts (a ++ b) = pendingAborts a ++ pendingAborts b := by
  simp [pendingAborts]
@[simp] theorem grantsOf_append (a b) : grantsOf (a ++ b) = grantsOf a ++ grantsOf b := by simp [grantsOf]
@[simp] theorem abortsOf_append (a b) : abortsOf (a ++ b) = abortsOf a ++ abortsOf b := by simp [abortsOf]
@[simp] theorem go_grant (w) : grantsOf [Ev.grant w] = [w] := rfl
@[simp] theorem go_abort (w) : grantsOf [Ev.abort w] = [] := rfl
@[simp] theorem ao_grant (w) : abortsOf [Ev.grant w] = [] := rfl
@[simp] theorem ao_abort (w) : abortsOf [Ev.abort w] = [w] := rfl
@[simp] theorem grantsOf_nil : grantsOf [] = [] := rfl
@[simp] theorem abortsOf_nil : abortsOf [] = [] := rfl

@[simp] theorem pendingGrants_aborts (l : List Nat) : pendingGrants (l.map fun w => Task.ev (.abort w)) = [] := by
  simp [pendingGrants, List.filterMap_map]

@[simp] theorem pendingAborts_aborts (l : List Nat) : pendingAborts (l.map fun w => Task.ev (.abort w)) = l := by
  simp [pendingAborts, List.filterMap_map, Function.comp_def]

theorem ginv_init : GInv {} := by
  constructor <;> simp

theorem abIn_mono {g : G} (h : GInv g) (extra : List Nat) :
    ∀ w ∈ abortsOf g.trace ++ pendingAborts g.m.posted, w ∈ g.abortedP ++ extra :=
  fun w hw => List.mem_append_left _ (h.abIn w hw)

theorem GInv.live_fresh {g : G} (h : GInv g) :
    (live g.m.waiting).Nodup ∧ (∀ w ∈ live g.m.waiting, w ∈ g.arrival) ∧ (∀ w ∈ live g.m.waiting, w ∉ g.grantedP) ∧
      ∀ w ∈ live g.m.waiting, w ∉ g.abortedP := by
  have hnd : (g.grantedP ++ live g.m.waiting).Nodup := h.part ▸ h.nodupA.filter _
  obtain ⟨_, hlive, hdisjoint⟩ := List.nodup_append.mp hnd
  have hm : ∀ w ∈ live g.m.waiting, w ∈ g.arrival ∧ w ∉ g.abortedP := fun w hw => by
    simpa [List.mem_filter] using (h.part ▸ List.mem_append_right _ hw : w ∈ g.arrival.filter (notIn g.abortedP))
  exact ⟨hlive, fun w hw => (hm w hw).1, fun w hw hg => hdisjoint w hg w hw rfl, fun w hw => (hm w hw).2⟩

/-- The shape every step has: the waiters `arrive` (fresh) call `lock`, those in `grant` are handed the lock from the front of the
queue, those in `abort` are taken out of the queue and aborted; the grants and aborts run or posted grow by `grant` and (in some
order) by `abort`.  What the step does to the lock flag (`hu`, `hp`, `hn`) is left to the caller; the bookkeeping equations are
found by `simp` wherever it needs no help. -/
theorem GInv.move {g g' : G} (h : GInv g)
    (hu : g'.m.locked = false → g'.m.waiting = [] ∧ g'.delivered = false)
    (hp : pendingGrants g'.m.posted = if g'.m.locked && !g'.delivered then g'.grantedP.getLast?.toList else [])
    (hn : g'.m.locked = true → g'.grantedP ≠ []) (arrive grant abort : List Nat := [])
    (hAf : ∀ a ∈ arrive, a ∉ g.arrival := by simp) (hAd : arrive.Nodup := by simp)
    (hBs : abort.Sublist (live g.m.waiting) := by simp)
    (hA : g'.arrival = g.arrival ++ arrive := by simp) (hGr : g'.grantedP = g.grantedP ++ grant := by simp)
    (hB : g'.abortedP = g.abortedP ++ abort := by simp)
    (hq : grant ++ live g'.m.waiting = (live g.m.waiting ++ arrive).filter (notIn abort) := by simp)
    (hgs : grantsOf g'.trace ++ pendingGrants g'.m.posted = (grantsOf g.trace ++ pendingGrants g.m.posted) ++ grant := by simp)
    (has : (abortsOf g'.trace ++ pendingAborts g'.m.posted).Perm ((abortsOf g.trace ++ pendingAborts g.m.posted) ++ abort) := by simp) :
    GInv g' := by
  obtain ⟨hlnd, harrived, hnotGranted, hnotAborted⟩ := h.live_fresh
  have hBl : ∀ w ∈ abort, w ∈ live g.m.waiting := fun w hw => hBs.subset hw
  refine ⟨?_, ?_, ?_, hu, hp, hn, ?_, ?_, ?_⟩
  · rw [hA]
    exact List.nodup_append.mpr ⟨h.nodupA, hAd, fun a ha b hb hab => hAf b hb (hab ▸ ha)⟩
  · rw [hGr, hB, hA, List.append_assoc, hq]
    have hf : ∀ l : List Nat, l.filter (notIn (g.abortedP ++ abort)) = (l.filter (notIn g.abortedP)).filter (notIn abort) := by
      intro l; rw [List.filter_filter]; congr 1; funext x; simp [notIn, Bool.and_comm]
    have hAa : arrive.filter (notIn g.abortedP) = arrive := by
      rw [List.filter_eq_self]; intro a ha; rw [notIn_eq_true]
      exact fun hab => hAf a ha (h.abSub a hab)
    have hGB : g.grantedP.filter (notIn abort) = g.grantedP := by
      rw [List.filter_eq_self]; intro a ha; rw [notIn_eq_true]
      exact fun hb => hnotGranted a (hBl a hb) ha
    rw [hf, List.filter_append (l₁ := g.arrival), ← h.part, hAa]
    simp only [List.append_assoc, List.filter_append, hGB]
  · rw [hB, hA]
    exact fun w hw => List.mem_append_left _ ((List.mem_append.mp hw).elim (h.abSub w) fun hw => harrived w (hBl w hw))
  · rw [hgs, h.tr, hGr]
  · rw [has.nodup_iff]
    refine List.nodup_append.mpr ⟨h.abNodup, hBs.nodup hlnd, fun a ha b hb hab => ?_⟩
    exact hnotAborted b (hBl b hb) (hab ▸ h.abIn a ha)
  · rw [hB]
    exact fun w hw => (List.mem_append.mp (has.subset hw)).elim (fun hw => List.mem_append_left _ (h.abIn w hw))
      (List.mem_append_right _)

/-- the invariant sees the posted tasks and the trace only through the grants and aborts in them -/
theorem GInv.keep {g : G} (h : GInv g) (p : List Task) (t : List Ev) (hpg : pendingGrants p = pendingGrants g.m.posted)
    (hg : grantsOf t = grantsOf g.trace) (ha : abortsOf t ++ pendingAborts p = abortsOf g.trace ++ pendingAborts g.m.posted) :
    GInv { g with m := { g.m with posted := p }, trace := t } :=
  ⟨h.nodupA, h.part, h.abSub, h.unlockedEmpty, hpg ▸ h.pend, h.lockedNe, hg ▸ hpg ▸ h.tr, ha ▸ h.abNodup, ha ▸ h.abIn⟩

/-- an effective per-operation cancellation of `w`, its abort posted or (`inline`) run at once -/
theorem GInv.cancel {g : G} (h : GInv g) {w : Nat} (hw : some w ∈ g.m.waiting) (inline : Bool) :
    GInv { g with m := { g.m with waiting := clearSlot w g.m.waiting,
                                  posted := if inline then g.m.posted else g.m.posted ++ [.ev (.abort w)] },
                  trace := g.trace ++ (if inline then [.abort w] else []), abortedP := g.abortedP ++ [w] } := by
  have hlk : g.m.locked = true := Bool.of_not_eq_false fun hk => by simp [(h.unlockedEmpty hk).1] at hw
  refine h.move (fun hk => by simp [hlk] at hk) ?_ h.lockedNe (abort := [w]) (hBs := by simpa [mem_live] using hw)
    (hq := by simp [live_clearSlot]) (hgs := ?_) (has := ?_)
  · cases inline <;> simpa using h.pend
  · cases inline <;> simp
  · cases inline
    · simp
    · simpa using (List.perm_append_singleton w _).symm.append_left _

/-- a posted grant means the lock is taken and not delivered yet, and it is the only one -/
theorem GInv.posted_grant {g : G} (h : GInv g) {w : Nat} {r : List Task} (hp : g.m.posted = .ev (.grant w) :: r) :
    g.m.locked = true ∧ g.delivered = false ∧ pendingGrants r = [] := by
  have hpend := h.pend
  rw [hp] at hpend
  cases hc : (g.m.locked && !g.delivered) <;> cases hlast : g.grantedP.getLast? <;> simp_all

theorem step_inv (g : G) (i : In) (h : GInv g) (hl : g.legal i = true) : GInv (g.step i) := by
  cases i with
  | lock w =>
    have hfresh : w ∉ g.arrival := by simpa [G.legal] using hl
    cases hlk : g.m.locked with
    | true =>
      simp only [G.step, M.step, hlk, if_true]
      exact h.move (fun hk => by simp at hk) (by simpa [hlk] using h.pend) (fun _ => h.lockedNe hlk) (arrive := [w])
        (hAf := by simpa using hfresh)
    | false =>
      obtain ⟨hw, -⟩ := h.unlockedEmpty hlk
      have hp := h.pend
      simp only [hlk, Bool.false_and, Bool.false_eq_true, if_false] at hp
      simp only [G.step, M.step, hlk, Bool.false_eq_true, if_false]
      exact h.move (fun hk => by simp at hk) (by simp [hp]) (by simp) (arrive := [w]) (grant := [w])
        (hAf := by simpa using hfresh) (hq := by simp [hw])
  | unlock =>
    have hdel : g.delivered = true := by simpa [G.legal] using hl
    have hlk : g.m.locked = true := Bool.of_not_eq_false fun hk => by simp [(h.unlockedEmpty hk).2] at hdel
    have hp := h.pend
    simp only [hlk, hdel, Bool.not_true, Bool.and_false, Bool.false_eq_true, if_false] at hp
    have hq := unlockQ_spec g.m.waiting
    cases hu : unlockQ g.m.waiting with
    | mk o r =>
      rw [hu] at hq
      cases o with
      | some w =>
        simp only [G.step, M.step, hu]
        exact h.move (fun hk => by simp [hlk] at hk) (by simp [hp, hlk]) (by simp) (grant := [w]) (hq := by simp [hq.1 w rfl])
      | none =>
        obtain ⟨hlive, rfl⟩ := hq.2 rfl
        simp only [G.step, M.step, hu]
        exact h.move (fun _ => ⟨rfl, rfl⟩) (by simp [hp]) (fun hk => by cases hk) (hq := by simp [hlive])
  | cancelOne w inside =>
    cases inside with
    | true =>
      simp only [G.step, M.step, if_true, Bool.not_true, Bool.false_and, Bool.false_eq_true, if_false]
      exact h.keep _ _ (by simp) (by simp) (by simp)
    | false =>
      cases hw : g.m.waiting.contains (some w) with
      | true =>
        simp only [G.step, M.step, emitSignal, effective, hw, if_true, Bool.not_false, Bool.true_and, Bool.false_eq_true, if_false]
        exact h.cancel (List.contains_iff_mem.mp hw) false
      | false =>
        simp only [G.step, M.step, emitSignal, effective, hw, Bool.false_eq_true, if_false, Bool.and_false, List.append_nil]
        exact h
  | cancelAll =>
    simp only [G.step, M.step]
    exact h.move (fun hk => ⟨rfl, (h.unlockedEmpty hk).2⟩) (by simpa using h.pend) h.lockedNe (abort := live g.m.waiting)
      (hq := by simp [List.filter_eq_nil_iff]) (has := by simp [live])
  | run1 =>
    cases hp : g.m.posted with
    | nil => simp only [G.step, M.step, hp, List.append_nil]; exact h
    | cons t r =>
      have hpend := h.pend
      rw [hp] at hpend
      cases t with
      | ev e =>
        cases e with
        | grant w =>
          obtain ⟨hlk, -, hr⟩ := h.posted_grant hp
          simp only [G.step, M.step, hp]
          exact h.move (fun hk => by simp [hlk] at hk) (by simp [hr]) h.lockedNe (hgs := by simp [hp]) (has := by simp [hp])
        | abort w =>
          simp only [G.step, M.step, hp]
          exact h.keep _ _ (by simp [hp]) (by simp) (by simp [hp])
      | emit w =>
        have h1 := h.keep r g.trace (by simp [hp]) rfl (by simp [hp])
        cases hw : g.m.waiting.contains (some w) with
        | true =>
          simp only [G.step, M.step, emitSignal, effective, hp, hw, if_true]
          exact h1.cancel (List.contains_iff_mem.mp hw) true
        | false =>
          simp only [G.step, M.step, emitSignal, effective, hp, hw, Bool.false_eq_true, if_false, List.append_nil]
          exact h1

/-- a legal history is a run of the partial step "refuse what is not legal" -/
theorem isRun : Lts.IsRun (fun (g : G) i => if g.legal i then some (g.step i) else none) G.run :=
  ⟨fun _ => rfl, fun g i is => by simp only [G.run]; split <;> rfl⟩

theorem reachable_inv (is : List In) : ∀ (g g' : G), GInv g → g.run is = some g' → GInv g' :=
  fun _ _ h hr => isRun.guarded GInv h step_inv hr

end Mqtt5V.Proofs.Mutex
