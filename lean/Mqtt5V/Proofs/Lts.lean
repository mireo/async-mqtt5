/-! Runs of a partial labelled transition system `step : σ → ε → Option σ`.  Every composed model (`Model/Trace*.lean`) defines its
own `run` by the two equations of `IsRun` (and a guarded total step, as of the mutex or the allocator, is one that refuses what is not
legal); what follows from them alone is proved here once.  In front: `countP` / `filterMap` of one more element with `toNat` / `toList` in place of a case split, the
form in which `omega` and `Sublist` can use them. -/
namespace List
variable {α β : Type}

theorem countP_cons_toNat (P : α → Bool) (x : α) (l : List α) : (x :: l).countP P = l.countP P + (P x).toNat := by
  cases h : P x <;> simp [h]

theorem countP_snoc_toNat (P : α → Bool) (l : List α) (x : α) : (l ++ [x]).countP P = l.countP P + (P x).toNat := by
  rw [countP_append, countP_cons_toNat, countP_nil, Nat.zero_add]

theorem filterMap_cons_toList (f : α → Option β) (x : α) (l : List α) : (x :: l).filterMap f = (f x).toList ++ l.filterMap f := by
  cases h : f x <;> simp [h]

theorem filterMap_snoc_toList (f : α → Option β) (l : List α) (x : α) : (l ++ [x]).filterMap f = l.filterMap f ++ (f x).toList := by
  rw [filterMap_append, filterMap_cons_toList, filterMap_nil, append_nil]

end List

namespace Mqtt5V.Lts
variable {σ ε : Type} {step : σ → ε → Option σ} {run : σ → List ε → Option σ}

structure IsRun (step : σ → ε → Option σ) (run : σ → List ε → Option σ) : Prop where
  nil : ∀ s, run s [] = some s
  cons : ∀ s e es, run s (e :: es) = (step s e).bind (run · es)

namespace IsRun
variable (R : IsRun step run)
include R

theorem head {s s' : σ} {e : ε} {es : List ε} (h : run s (e :: es) = some s') : ∃ s1, step s e = some s1 ∧ run s1 es = some s' :=
  Option.bind_eq_some_iff.mp (R.cons s e es ▸ h)

theorem append (s : σ) (a b : List ε) : run s (a ++ b) = (run s a).bind (run · b) := by
  induction a generalizing s with
  | nil => simp [R.nil]
  | cons e es ih =>
    simp only [List.cons_append, R.cons]
    cases step s e with
    | none => rfl
    | some s1 => exact ih s1

theorem split {s s' : σ} {a b : List ε} (h : run s (a ++ b) = some s') : ∃ s1, run s a = some s1 ∧ run s1 b = some s' := by
  rw [R.append] at h
  exact Option.bind_eq_some_iff.mp h

theorem mid {s s' : σ} {a b : List ε} {e : ε} (h : run s (a ++ e :: b) = some s') :
    ∃ s1 s2, run s a = some s1 ∧ step s1 e = some s2 ∧ run s2 b = some s' := by
  obtain ⟨s1, h1, h2⟩ := R.split h
  obtain ⟨s2, h3, h4⟩ := R.head h2
  exact ⟨s1, s2, h1, h3, h4⟩

theorem inv (I : List ε → σ → Prop) {pre : List ε} {s : σ} (h0 : I pre s)
    (hstep : ∀ h s e s', I h s → step s e = some s' → I (h ++ [e]) s') {tr : List ε} {s' : σ} (hr : run s tr = some s') : I (pre ++ tr) s' := by
  induction tr generalizing pre s with
  | nil => rw [R.nil] at hr; cases hr; simpa using h0
  | cons e es ih =>
    obtain ⟨s1, h1, h2⟩ := R.head hr
    simpa using ih (hstep _ _ _ _ h0 h1) h2

theorem reach (I : List ε → σ → Prop) {init : σ} (h0 : I [] init)
    (hstep : ∀ h s e s', I h s → step s e = some s' → I (h ++ [e]) s') {tr : List ε} {s : σ} (hr : run init tr = some s) : I tr s := by
  simpa using R.inv I h0 hstep hr

theorem invariant (I : σ → Prop) {s : σ} (h0 : I s) (hstep : ∀ s e s', I s → step s e = some s' → I s')
    {tr : List ε} {s' : σ} (hr : run s tr = some s') : I s' :=
  R.reach (fun _ => I) h0 (fun _ => hstep) hr

theorem isSome_mid {s : σ} {a b : List ε} {e : ε} (h : (run s (a ++ e :: b)).isSome = true) :
    ∃ s1 s2, run s a = some s1 ∧ step s1 e = some s2 := by
  obtain ⟨s', hr⟩ := Option.isSome_iff_exists.1 h
  obtain ⟨s1, s2, h1, h2, _⟩ := R.mid hr
  exact ⟨s1, s2, h1, h2⟩

theorem isSome_prefix {s : σ} {tr a b : List ε} (h : (run s tr).isSome = true) (hsplit : tr = a ++ b) : ∃ s1, run s a = some s1 := by
  subst hsplit
  obtain ⟨s', hr⟩ := Option.isSome_iff_exists.1 h
  obtain ⟨s1, h1, _⟩ := R.split hr
  exact ⟨s1, h1⟩

/-- `f` is an observer folded over the events beside the run, `I` ties what it has computed to the state -/
theorem observed {ω : Type} {f : ω → ε → ω} (I : ω → σ → Prop) (hstep : ∀ o s e s', I o s → step s e = some s' → I (f o e) s')
    {o : ω} {s s' : σ} {tr : List ε} (h0 : I o s) (hr : run s tr = some s') : I (tr.foldl f o) s' :=
  R.reach (fun h s => I (h.foldl f o) s) h0 (fun _ _ _ _ hI hs => by rw [List.foldl_append]; exact hstep _ _ _ _ hI hs) hr

theorem fold {α : Type} (f : σ → α) (g : α → ε → α) (hstep : ∀ s e s', step s e = some s' → f s' = g (f s) e)
    {s s' : σ} {tr : List ε} (hr : run s tr = some s') : f s' = tr.foldl g (f s) :=
  R.observed (fun o s => f s = o) (fun _ _ _ _ hI hs => hI ▸ hstep _ _ _ hs) rfl hr

/-! Ledger arguments. `μ` measures how much of something the state holds, `out e` / `inp e` what an event takes out / brings in: if every
accepted step balances, `out e + μ s' ≤ μ s + inp e`, so does every run — once with numbers, `+`, `≤` (how often), once with lists,
`++`, `Sublist` (in which order). The step condition does not mention the history. -/

theorem count_flow (out inp : ε → Bool) (μ : σ → Nat)
    (hstep : ∀ s e s', step s e = some s' → (out e).toNat + μ s' ≤ μ s + (inp e).toNat)
    {s s' : σ} {tr : List ε} (hr : run s tr = some s') : tr.countP out + μ s' ≤ μ s + tr.countP inp := by
  refine R.reach (fun h t => h.countP out + μ t ≤ μ s + h.countP inp) (by simp) ?_ hr
  intro h t e t' I ht
  have := hstep t e t' ht
  simp only [List.countP_snoc_toNat]
  omega

theorem sublist_flow {α : Type} (out inp : ε → Option α) (μ : σ → List α)
    (hstep : ∀ s e s', step s e = some s' → ((out e).toList ++ μ s').Sublist (μ s ++ (inp e).toList))
    {s s' : σ} {tr : List ε} (hr : run s tr = some s') : (tr.filterMap out ++ μ s').Sublist (μ s ++ tr.filterMap inp) := by
  refine R.reach (fun h t => (h.filterMap out ++ μ t).Sublist (μ s ++ h.filterMap inp)) (by simp) ?_ hr
  intro h t e t' I ht
  have := hstep t e t' ht
  simp only [List.filterMap_snoc_toList, List.append_assoc]
  -- out h ++ (out e ++ μ t') ⊑ out h ++ (μ t ++ inp e) by the step, ⊑ (μ s ++ inp h) ++ inp e by the run so far
  exact ((List.Sublist.refl _).append this).trans (by simpa using I.append (List.Sublist.refl _))

end IsRun

/-- a guarded total step: `next`, refused where it is not `legal` (the mutex, the allocator) -/
theorem IsRun.guarded {σ ε : Type} {run : σ → List ε → Option σ} {legal : σ → ε → Bool} {next : σ → ε → σ}
    (R : IsRun (fun s e => if legal s e then some (next s e) else none) run) (I : σ → Prop)
    {s : σ} (h0 : I s) (hstep : ∀ s e, I s → legal s e = true → I (next s e)) {tr : List ε} {s' : σ} (hr : run s tr = some s') : I s' :=
  R.invariant I h0 (fun s e s' h hs => by split at hs <;> cases hs; exact hstep s e h ‹_›) hr

/-! Runs of a total step that also emits outputs, `step : σ → ι → σ × List ο` (`publish_send_op` in `Proofs/PubSend`, `replies` in `Props/C01`).
Their states are a run in the sense of `IsRun`, so invariants come from there; what is new is where an output comes from. -/
section
variable {σ ι ο : Type} {step : σ → ι → σ × List ο} {run : σ → List ι → σ × List ο}

structure IsOutRun (step : σ → ι → σ × List ο) (run : σ → List ι → σ × List ο) : Prop where
  nil : ∀ s, run s [] = (s, [])
  cons : ∀ s i is, run s (i :: is) = ((run (step s i).1 is).1, (step s i).2 ++ (run (step s i).1 is).2)

namespace IsOutRun
variable (R : IsOutRun step run)
include R

theorem states : IsRun (fun s i => some (step s i).1) (fun s is => some (run s is).1) :=
  ⟨fun s => by rw [R.nil], fun s i is => by rw [R.cons]; rfl⟩

theorem reach (I : List ι → σ → Prop) {s : σ} (h0 : I [] s) (hstep : ∀ h s i, I h s → I (h ++ [i]) (step s i).1) (is : List ι) :
    I is (run s is).1 :=
  R.states.reach I h0 (fun h s i _ hI hs => Option.some.inj hs ▸ hstep h s i hI) rfl

theorem invariant (I : σ → Prop) {s : σ} (h0 : I s) (hstep : ∀ s i, I s → I (step s i).1) (is : List ι) : I (run s is).1 :=
  R.reach (fun _ => I) h0 (fun _ => hstep) is

theorem mem_out {s : σ} {is : List ι} {o : ο} (h : o ∈ (run s is).2) :
    ∃ pre i post, is = pre ++ i :: post ∧ o ∈ (step (run s pre).1 i).2 := by
  induction is generalizing s with
  | nil => rw [R.nil] at h; cases h
  | cons i is ih =>
    rw [R.cons] at h
    rcases List.mem_append.mp h with h | h
    · exact ⟨[], i, is, rfl, by rwa [R.nil]⟩
    · obtain ⟨pre, j, post, rfl, hj⟩ := ih h
      exact ⟨i :: pre, j, post, rfl, by rwa [R.cons]⟩

end IsOutRun
end

end Mqtt5V.Lts
