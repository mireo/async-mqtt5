import Mqtt5V.Model.TraceKA
import Mqtt5V.Proofs.Lts
/-! The keep-alive model against what an observer computes from the events alone: the state is the observation (`Obs`) plus the two things the
observer cannot see, the phase of `ping_op` and whether the PINGREQ waits in the send queue; `TimerOk` and `PingAt` say what the observation tells
about those two. -/
namespace Mqtt5V.Proofs.Timing
open Mqtt5V.Gen.Timing

theorem pingWaitMs_eq_some {k x : Nat} : pingWaitMs k = some x ↔ 0 < k ∧ x = 1000 * k := by
  cases k with
  | zero => simp [pingWaitMs]
  | succ n => simp [pingWaitMs, Nat.mul_comm, eq_comm]

theorem readTimeoutMs_eq_some {k x : Nat} : readTimeoutMs k = some x ↔ 0 < k ∧ x = 1500 * k := by
  cases k with
  | zero => simp [readTimeoutMs]
  | succ n =>
    -- 3 · k · 1000 / 2 = 2 · (1500 · k) / 2
    rw [readTimeoutMs, if_neg (Nat.succ_ne_zero n), Nat.mul_right_comm, Nat.mul_assoc 2 1500, Nat.mul_div_cancel_left _ (by decide)]
    simp [eq_comm]

end Mqtt5V.Proofs.Timing

namespace Mqtt5V.Proofs.TraceKA
open Mqtt5V.Model.TraceKA Mqtt5V.Gen.Timing Mqtt5V.Proofs.Timing

theorem isRun : Lts.IsRun step run := ⟨fun _ => rfl, fun _ _ _ => rfl⟩

variable {s : S}

theorem step_eol : (step s .eol).isSome ↔ (s.queued = true → s.writing = true) := by
  simp [step]

theorem step_rd {t : Option Nat} : (step s (.rd t)).isSome ↔ t = readTimeoutMs s.K := by
  simp [step]

theorem step_wr_ping {t : Bool} : (step s (.wr true t)).isSome ↔ s.writing = false ∧ t = false ∧ s.queued = true := by
  simp [step, Option.isSome_iff_exists]

abbrev stateOf (o : Obs) (p : Phase) (q : Bool) : S := ⟨o.now, o.cfg, o.ska, p, q, o.batchPing, o.writing⟩

/-- what the observation says about the timer, per phase.  `0 < o.kMax` sits under the `∀ x` of `waiting` only so that the step to
`sending` (the timer fires) can hand it on. -/
def TimerOk (o : Obs) : Phase → Prop
  | .idle => o.running = false
  | .waiting d => o.running = true ∧ d = (pingWaitMs o.kArm).map (o.lastReset + ·) ∧ ∀ x, d = some x → o.now < x ∧ 0 < o.kMax
  | .sending => o.running = true ∧ 0 < o.kMax

/-- where the PINGREQ is (`q`: it waits in the send queue; `b`: the write in progress carries it; `w`: a write is in progress): nowhere unless
the phase is `sending` -/
def PingAt : Phase → Bool → Bool → Bool → Prop
  | .sending, q, b, w => q = true ∨ b = true ∧ w = true
  | _, q, b, _ => q = false ∧ b = false

theorem PingAt.take {p : Phase} {q b : Bool} (h : PingAt p q b false) : PingAt p false q true := by
  cases p <;> simp_all [PingAt]
theorem PingAt.pass {p : Phase} {q b : Bool} (h : PingAt p q b false) : PingAt p q false true := by
  cases p <;> simp_all [PingAt]
theorem PingAt.done {p : Phase} {q w : Bool} (h : PingAt p q false w) : PingAt p q false false := by
  cases p <;> simp_all [PingAt]
theorem PingAt.sending {p : Phase} {q b w : Bool} (h : PingAt p q b w) (hqb : q = true ∨ b = true) : p = .sending := by
  cases p <;> simp_all [PingAt]

theorem TimerOk.running {o : Obs} {p : Phase} (h : TimerOk o p) (hp : p ≠ .idle) : o.running = true := by
  cases p with
  | idle => exact absurd rfl hp
  | _ => exact h.1

theorem TimerOk.reset {o : Obs} {p : Phase} (h : TimerOk o p) (hp : ∀ d, p ≠ .waiting d) : TimerOk o.reset p := by
  cases p with
  | idle => exact h
  | waiting d => exact absurd rfl (hp d)
  | sending => exact ⟨h.1, Nat.lt_of_lt_of_le h.2 (Nat.le_max_left ..)⟩      -- the observer's reset can only raise `kMax`

theorem TimerOk.adv {o : Obs} {p : Phase} {ms : Nat} (h : TimerOk o p) (hp : ∀ d, p = .waiting (some d) → o.now + ms < d) :
    TimerOk { o with now := o.now + ms } p := by
  cases p with
  | waiting d => exact ⟨h.1, h.2.1, fun x hx => ⟨hp x (hx ▸ rfl), (h.2.2 x hx).2⟩⟩
  | _ => exact h

def Inv (o : Obs) (s : S) : Prop := ∃ p q, s = stateOf o p q ∧ TimerOk o p ∧ PingAt p q o.batchPing o.writing

theorem inv_init : Inv {} init := ⟨.idle, false, rfl, rfl, rfl, rfl⟩

/-- arming the timer re-establishes `Inv` whatever the phase was: the step of `run`, `refresh`, `wrOk` and `wrFail` that re-arm -/
theorem inv_arm {o : Obs} (hr : o.running = true) (hb : o.batchPing = false) {p : Phase} {q b : Bool} :
    Inv o.reset (arm { stateOf o p q with inBatch := b }) := by
  refine ⟨.waiting ((pingWaitMs o.K).map (o.now + ·)), false, ?_, ⟨hr, rfl, ?_⟩, rfl, hb⟩
  · simp [arm, Obs.reset, S.K, Obs.K, hb]
  intro x hx
  obtain ⟨_, hk, rfl⟩ := Option.map_eq_some_iff.mp hx
  obtain ⟨hk, rfl⟩ := pingWaitMs_eq_some.mp hk
  simp [Obs.reset] at hk ⊢
  omega

theorem inv_step (o : Obs) (s : S) (e : Ev) (s' : S) (I : Inv o s) (h : step s e = some s') : Inv (obsStep o e) s' := by
  obtain ⟨p, q, rfl, hT, hP⟩ := I
  cases e <;> simp only [step, Option.ite_none_right_eq_some, Option.ite_none_left_eq_some, Option.some.injEq] at h
  case cfg | rd | eol => obtain ⟨-, rfl⟩ := h; exact ⟨p, q, rfl, hT, hP⟩
  case connUp => subst h; exact ⟨p, q, rfl, hT, hP⟩
  case run =>
    obtain ⟨rfl, rfl⟩ := h
    exact inv_arm (o := { o with running := true }) rfl hP.2
  case refresh =>
    split at h <;> cases h
    · exact inv_arm hT.1 hP.2
    · rename_i hnw
      exact ⟨p, q, rfl, hT.reset hnw, hP⟩
  case adv ms =>
    split at h
    · rename_i d
      split at h <;> cases h
      · exact ⟨.sending, true, rfl, ⟨hT.1, (hT.2.2 d rfl).2⟩, Or.inl rfl⟩      -- the timer fires: the PINGREQ is queued
      · rename_i hd
        exact ⟨_, q, rfl, hT.adv (fun _ hx => by cases hx; omega), hP⟩
    · rename_i hnw
      cases h
      exact ⟨p, q, rfl, hT.adv (fun d hd => absurd hd (hnw d)), hP⟩
  case wr pg t =>
    obtain ⟨hw, h⟩ := h
    rw [Bool.eq_false_iff.mpr hw] at hP
    cases t <;> simp only [Bool.false_eq_true, if_true, if_false, Option.ite_none_right_eq_some, Option.ite_none_left_eq_some, Option.some.injEq] at h <;>
      obtain ⟨hg, rfl⟩ := h
    · subst hg      -- not a DISCONNECT: the write takes the PINGREQ out of the queue, if it is there
      exact ⟨p, false, by simp [obsStep], hT, by simpa [obsStep] using hP.take⟩
    · exact ⟨p, q, by simp [obsStep, hg], hT, by simpa [obsStep, hg] using hP.pass⟩      -- a DISCONNECT leaves on its own
  case wrOk =>
    obtain ⟨hw, h⟩ := h
    split at h <;> cases h
    · rename_i hb
      simp only [obsStep, hb, if_true]
      have hr : o.running = true := hT.running (by rw [hP.sending (Or.inr hb)]; simp)
      exact inv_arm (o := { o with writing := false, batchPing := false }) hr rfl
    · rename_i hb
      rw [Bool.not_eq_true] at hb
      simp only [obsStep, hb, Bool.false_eq_true, if_false]
      rw [hb] at hP
      exact ⟨p, q, rfl, hT, hb ▸ hP.done⟩
  case wrFail =>
    obtain ⟨hw, h⟩ := h
    split at h <;> cases h
    · exact ⟨.idle, false, rfl, hT, rfl, rfl⟩
    · rename_i hni
      exact inv_arm (o := { o with writing := false, batchPing := false }) (hT.running (hni ·)) rfl
  case wrAbort =>
    obtain ⟨hg, rfl⟩ := h
    simp only [Bool.and_eq_true, decide_eq_true_eq] at hg
    obtain ⟨-, rfl⟩ := hg
    exact ⟨.idle, q, rfl, hT, hP.1, rfl⟩
  case wrFatal =>
    obtain ⟨-, rfl⟩ := h
    exact ⟨.idle, false, rfl, rfl, rfl, rfl⟩
  case stop =>
    subst h
    exact ⟨.idle, false, rfl, rfl, rfl, rfl⟩

theorem last {tr : List Ev} {e : Ev} (h : accepts (tr ++ [e]) = true) :
    ∃ p q, TimerOk (obs tr) p ∧ PingAt p q (obs tr).batchPing (obs tr).writing ∧ (step (stateOf (obs tr) p q) e).isSome := by
  obtain ⟨_, s', h1, h⟩ := isRun.isSome_mid h
  obtain ⟨p, q, rfl, hT, hP⟩ := isRun.observed Inv inv_step inv_init h1
  exact ⟨p, q, hT, hP, Option.isSome_iff_exists.mpr ⟨s', h⟩⟩

/-- what the hypotheses of `composed_no_ping_with_keepalive_zero` (C12) keep true of the observation, so that `kMax` stays 0 -/
def ZeroObs (o : Obs) : Prop := o.kMax = 0 ∧ o.cfg = 0 ∧ (o.ska = none ∨ o.ska = some 0)

theorem ZeroObs.reset {o : Obs} (z : ZeroObs o) : ZeroObs o.reset := by
  have hK : o.K = 0 := by obtain ⟨_, hc, hs | hs⟩ := z <;> simp [Obs.K, negotiated, hc, hs]
  exact ⟨by simp [Obs.reset, hK, z.1], z.2⟩

theorem zero_obs {tr : List Ev} (hc : ∀ k, Ev.cfg k ∈ tr → k = 0) (hu : ∀ ska, Ev.connUp ska ∈ tr → ska = none ∨ ska = some 0)
    {o : Obs} (z : ZeroObs o) : ZeroObs (tr.foldl obsStep o) := by
  refine List.foldlRecOn tr obsStep z fun o z e he => ?_
  cases e with
  | cfg k => exact ⟨z.1, hc k he, z.2.2⟩
  | connUp ska => exact ⟨z.1, z.2.1, hu ska he⟩
  -- `ZeroObs` reads only `kMax`, `cfg`, `ska`: what an event sets before the observer's reset does not matter (`o := _`: take it from the goal)
  | run | refresh | wrFail => exact ZeroObs.reset (o := _) z
  | wrOk =>
    simp only [obsStep]
    split
    · exact ZeroObs.reset (o := _) z
    · exact z
  | _ => exact z

end Mqtt5V.Proofs.TraceKA
