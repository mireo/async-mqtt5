import Mqtt5V.Model.ReasonCode
/-! Correctness of the binary search of `to_reason_code` on every sorted table (C20, and the CONNACK row in C10). -/
namespace Mqtt5V.Proofs.ReasonCode
open Mqtt5V Model.ReasonCode

/-- the loop invariant of `std::lower_bound` on a sorted table: everything left of the window `[first, first + count)`
is `< v`, everything right of it is `≥ v`; the window shrinks to the partition point -/
theorem lbLoop_spec {t : List Nat} {v : Nat} (mono : ∀ i j, i ≤ j → j < t.length → t.getD i 0 ≤ t.getD j 0)
    (fuel first count : Nat) (hc : count ≤ fuel) (hb : first + count ≤ t.length)
    (lo : ∀ i, i < first → t.getD i 0 < v) (hi : ∀ i, first + count ≤ i → i < t.length → v ≤ t.getD i 0) :
    (∀ i, i < lbLoop t v fuel first count → t.getD i 0 < v) ∧
      (∀ i, lbLoop t v fuel first count ≤ i → i < t.length → v ≤ t.getD i 0) := by
  fun_induction lbLoop t v fuel first count with
  -- the first two: the window is empty (`count ≤ fuel = 0`; `count = 0`)
  | case1 first count => exact ⟨lo, fun i h => hi i (by omega)⟩
  | case2 fuel first => exact ⟨lo, fun i h => hi i (by omega)⟩
  | case3 fuel first count hne step it hlt ih =>
    -- of the halving only `step < count` matters: any probe inside the window keeps the invariant
    have hs : step < count := Nat.div_lt_self (Nat.pos_of_ne_zero hne) (by decide)
    clear_value step
    refine ih (by omega) (by omega) (fun i h => ?_) (fun i h => hi i (by omega))
    exact Nat.lt_of_le_of_lt (mono i _ (by omega) (by omega)) hlt
  | case4 fuel first count hne step it hge ih =>
    have hs : step < count := Nat.div_lt_self (Nat.pos_of_ne_zero hne) (by decide)
    clear_value step
    refine ih (by omega) (by omega) lo (fun i h hl => ?_)
    exact Nat.le_trans (Nat.not_lt.mp hge) (mono _ i h hl)

theorem getD_of_lt {t : List Nat} {i : Nat} (h : i < t.length) : t.getD i 0 = t[i] := by
  simp [List.getD_eq_getElem?_getD, h]

theorem lookupIn_sorted {t : List Nat} (h : t.Pairwise (· < ·)) (v : Nat) :
    lookupIn true t v = if v ∈ t then .hit v else .miss := by
  have mono : ∀ i j, i ≤ j → j < t.length → t.getD i 0 ≤ t.getD j 0 := by
    intro i j hij hj
    rcases Nat.eq_or_lt_of_le hij with rfl | hlt
    · exact Nat.le_refl _
    · rw [getD_of_lt hj, getD_of_lt (Nat.lt_trans hlt hj)]
      exact Nat.le_of_lt (List.pairwise_iff_getElem.mp h i j _ hj hlt)
  obtain ⟨lo, hi⟩ := lbLoop_spec (v := v) mono (t.length + 1) 0 t.length (by omega) (by omega)
    (fun i h => absurd h (Nat.not_lt_zero i)) (fun i h hl => by omega)
  have key : (lowerBound t v < t.length ∧ t.getD (lowerBound t v) 0 = v) ↔ v ∈ t := by
    constructor
    · rintro ⟨hlt, hv⟩
      rw [← hv, getD_of_lt hlt]
      exact List.getElem_mem hlt
    · intro hv
      obtain ⟨k, hk, hkv⟩ := List.getElem_of_mem hv
      rw [← getD_of_lt hk] at hkv
      have hrk : lowerBound t v ≤ k := Nat.le_of_not_lt fun hlt => by have := lo k hlt; omega
      have h1 := hi _ (Nat.le_refl _) (Nat.lt_of_le_of_lt hrk hk)
      have h2 := mono _ k hrk hk
      exact ⟨Nat.lt_of_le_of_lt hrk hk, by unfold lowerBound at *; omega⟩
  simp only [lookupIn, if_true, key]
  split
  · rename_i hv; rw [(key.mpr hv).2]
  · rfl

theorem lookupIn_hit_iff {t : List Nat} (h : t.Pairwise (· < ·)) {b v : Nat} : lookupIn true t b = .hit v ↔ v = b ∧ b ∈ t := by
  rw [lookupIn_sorted h]
  split <;> simp [*, eq_comm]

end Mqtt5V.Proofs.ReasonCode
