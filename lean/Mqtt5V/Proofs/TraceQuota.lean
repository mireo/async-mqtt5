import Mqtt5V.Proofs.Trace
/-! Flow control (C07), order of PUBLISH packets (C06), cancellation and drain (C05, C09) of the composed outbound model. -/
namespace Mqtt5V.Proofs.Trace
open Mqtt5V.Model.Trace

theorem addWire_nodup {w : List Nat} (p : Nat) (h : w.Nodup) : (addWire w p).Nodup := by
  unfold addWire; split
  · exact h
  · rename_i hn; exact List.nodup_cons.2 ⟨hn, h⟩

theorem mem_addWire {w : List Nat} {p q : Nat} : q ∈ addWire w p ↔ q = p ∨ q ∈ w := by
  unfold addWire; split
  · rename_i hm; constructor
    · intro h; exact Or.inr h
    · rintro (rfl | h); exact hm; exact h
  · simp

/-- flow control: the identifiers in flight on the wire all hold a token, tokens + quota = Receive Maximum.  Stated on the four fields it
reads and not on `S`, so that a step which leaves them alone preserves it by `exact I` -/
structure QuotaInv (wire holders : List Nat) (quota limit : Nat) : Prop where
  wnd : wire.Nodup
  sub : ∀ p ∈ wire, p ∈ holders
  bal : holders.length + quota = limit

theorem Accounted.quota {s a : S} {pk : Out} (I : QuotaInv s.wire s.holders s.quota s.limit) (ha : Accounted s pk a) :
    QuotaInv a.wire a.holders a.quota s.limit := by
  cases ha with
  | skip => exact I
  | held o q i d b hc hl hm =>
    exact ⟨addWire_nodup i I.wnd, fun p hp => (mem_addWire.1 hp).elim (· ▸ hm) (I.sub p), I.bal⟩
  | take o q i d b hc hl hm hq =>
    refine ⟨addWire_nodup i I.wnd, fun p hp => ?_, ?_⟩
    · rcases mem_addWire.1 hp with rfl | hp
      · exact List.mem_cons_self
      · exact List.mem_cons_of_mem _ (I.sub p hp)
    · have := I.bal; simp only [List.length_cons]; omega

theorem quotaInv_step (s : S) (e : Ev) (s' : S) (I : QuotaInv s.wire s.holders s.quota s.limit) (h : step s e = some s') :
    QuotaInv s'.wire s'.holders s'.quota s'.limit := by
  cases Step.of_step h with
  | connUp rm => exact ⟨.nil, nofun, Nat.zero_add _⟩
  | connDown => exact ⟨.nil, nofun, Nat.zero_add _⟩
  | first pk op pid body k n a _ ha => exact Accounted.quota (s := s) (a := a) I ha
  | resend pk op pid body sl a _ ha => exact Accounted.quota (s := s) (a := a) I ha
  | rx a =>
    -- a final acknowledgement takes the identifier off the wire; the token goes back only when the waiting operation takes it
    have hrf : releases s a = true → a.final = true ∧ a.pid ∈ s.holders := by
      intro hr; unfold releases at hr; simp only [Bool.and_eq_true, decide_eq_true_eq] at hr; exact hr.1
    dsimp only
    by_cases hrel : releases s a = true
    · obtain ⟨hf, hm⟩ := hrf hrel
      simp only [hf, hrel, if_true]
      refine ⟨I.wnd.erase _, fun p hp => ?_, ?_⟩
      · have := (I.wnd.mem_erase_iff).1 hp
        exact (List.mem_erase_of_ne this.1).2 (I.sub p this.2)
      · rw [List.length_erase_of_mem hm]
        have := I.bal; have := List.length_pos_of_mem hm
        omega
    · simp only [hrel]
      split
      · exact ⟨I.wnd.erase _, fun p hp => I.sub p (List.mem_of_mem_erase hp), I.bal⟩
      · exact I
  | _ => exact I

/-- the model's flow-control fields in the shape of what `wireOf` observes -/
def wireView (s : S) : Wire := { connected := s.connected, rm := s.limit, inflight := s.wire }

theorem Accounted.wire {s a : S} {pk : Out} (ha : Accounted s pk a) :
    ({ connected := s.connected, rm := s.limit, inflight := a.wire } : Wire) = wireStep (wireView s) (.pk pk) := by
  cases ha with
  | skip _ h =>
    cases pk with
    | publish o q i d b => simp [wireStep, wireView, h o q i d b rfl]
    | _ => rfl
  | held o q i d b hc => simp [wireStep, wireView, hc]
  | take o q i d b hc => simp [wireStep, wireView, hc]

theorem wireView_step (s : S) (e : Ev) (s' : S) (h : step s e = some s') : wireView s' = wireStep (wireView s) e := by
  cases Step.of_step h with
  | first pk op pid body k n a _ ha => exact ha.wire
  | resend pk op pid body sl a _ ha => exact ha.wire
  | rx a => simp only [wireView, wireStep]; split <;> rfl
  | _ => rfl

/-- C07, Receive Maximum; in the client's terms at `Props.C07.composed_receive_maximum_respected` -/
theorem receive_maximum_respected {tr pre post : List Ev} (hacc : accepts tr = true) (hsplit : tr = pre ++ post) :
    (wireOf pre).inflight.length ≤ (wireOf pre).rm := by
  obtain ⟨s, hr⟩ := isRun.isSome_prefix hacc hsplit
  have I := isRun.invariant (fun s => QuotaInv s.wire s.holders s.quota s.limit) (s := init) ⟨.nil, nofun, rfl⟩ quotaInv_step hr
  have hw : wireView s = wireOf pre := isRun.fold wireView wireStep wireView_step hr
  rw [← hw]
  have := I.wnd.length_le_of_subset I.sub
  have := I.bal
  simp only [wireView]; omega

/-- `pubsOf` (the fold of `pubsStep`) against the model: every PUBLISH written on this connection is at most `lastPub` (`le`), which is
what keeps the list sorted when the next one, later than `lastPub`, is appended -/
structure OrderInv (hist : List Ev) (s : S) : Prop where
  conn : (hist.foldl pubsStep (false, [])).1 = s.connected
  le : ∀ x ∈ (hist.foldl pubsStep (false, [])).2, x ≤ s.lastPub
  sorted : (hist.foldl pubsStep (false, [])).2.Pairwise (· < ·)

theorem order_keep {hist : List Ev} {s s' : S} {e : Ev} (I : OrderInv hist s) (h1 : s'.connected = s.connected) (h2 : s'.lastPub = s.lastPub)
    (he : pubsStep (hist.foldl pubsStep (false, [])) e = hist.foldl pubsStep (false, [])) : OrderInv (hist ++ [e]) s' := by
  refine ⟨?_, ?_, ?_⟩ <;> simp only [List.foldl_append, List.foldl_cons, List.foldl_nil, he, h1, h2]
  · exact I.conn
  · exact I.le
  · exact I.sorted

/-- a PUBLISH that is counted was initiated later than every PUBLISH written on the connection so far -/
theorem order_publish {hist : List Ev} {s s' : S} {o q i : Nat} {d : Bool} {b : Nat} (I : OrderInv hist s) (hc : s.connected = true)
    (hl : s.lastPub < o) (h1 : s'.connected = s.connected) (h2 : s'.lastPub = o) : OrderInv (hist ++ [.pk (.publish o q i d b)]) s' := by
  have hst : (hist.foldl pubsStep (false, [])).1 = true := I.conn.trans hc
  refine ⟨?_, ?_, ?_⟩ <;> simp only [List.foldl_append, List.foldl_cons, List.foldl_nil, pubsStep, hst, if_true]
  · exact (h1.trans hc).symm
  · intro x hx
    rcases List.mem_append.1 hx with hx | hx
    · have := I.le x hx; omega
    · simp only [List.mem_singleton] at hx; omega
  · refine List.pairwise_append.2 ⟨I.sorted, List.pairwise_singleton _ _, fun x hx y hy => ?_⟩
    simp only [List.mem_singleton] at hy
    have := I.le x hx; omega

theorem Accounted.order {hist : List Ev} {s a s' : S} {pk : Out} (I : OrderInv hist s) (ha : Accounted s pk a)
    (h1 : s'.connected = s.connected) (h2 : s'.lastPub = a.lastPub) : OrderInv (hist ++ [.pk pk]) s' := by
  cases ha with
  | skip _ h =>
    refine order_keep I h1 h2 ?_
    cases pk with
    | publish o q i d b => simp only [pubsStep, I.conn, h o q i d b rfl]; rfl
    | _ => rfl
  | held o q i d b hc hl => exact order_publish I hc hl h1 h2
  | take o q i d b hc hl => exact order_publish I hc hl h1 h2

theorem orderInv_step (hist : List Ev) (s : S) (e : Ev) (s' : S) (I : OrderInv hist s) (h : step s e = some s') : OrderInv (hist ++ [e]) s' := by
  cases Step.of_step h with
  | connUp rm => refine ⟨?_, ?_, ?_⟩ <;> simp [List.foldl_append, pubsStep]
  | connDown => refine ⟨?_, ?_, ?_⟩ <;> simp [List.foldl_append, pubsStep]
  | first pk op pid body k n a _ ha => exact ha.order I rfl rfl
  | resend pk op pid body sl a _ ha => exact ha.order I rfl rfl
  | _ => exact order_keep I rfl rfl rfl

/-- C06, PUBLISH packets of a connection in initiation order; in the client's terms at `Props.C06.composed_publish_order` -/
theorem publish_order {tr : List Ev} (hacc : accepts tr = true) (pre post : List Ev) (hsplit : tr = pre ++ post) :
    (pubsOf pre).Pairwise (· < ·) := by
  obtain ⟨s, hr⟩ := isRun.isSome_prefix hacc hsplit
  exact (isRun.reach OrderInv ⟨rfl, nofun, .nil⟩ orderInv_step hr).sorted

theorem cancelled_eq {tr : List Ev} {s : S} (hr : run init tr = some s) : s.cancelled = cancelledOf tr :=
  isRun.fold S.cancelled _ (fun _ _ _ h => by cases Step.of_step h <;> rfl) hr

/-- C05 / C09, no success after cancel(); in the client's terms at `Props.C05.composed_no_success_after_cancel` (the same in `Props.C09`) -/
theorem no_success_after_cancel {pre post : List Ev} {op : Nat} {rcs : List Nat} {props : Nat}
    (hacc : accepts (pre ++ .doneOk op rcs props :: post) = true) : cancelledOf pre = false := by
  obtain ⟨s1, s2, hr, hst⟩ := isRun.isSome_mid hacc
  cases Step.of_step hst with
  | doneOk _ _ _ p sl hnd hc => rw [← cancelled_eq hr]; exact hc

/-- C05, drain; in the client's terms at `Props.C05.composed_all_completed_at_quiescence` -/
theorem all_completed_at_quiescence {pre post : List Ev} (hacc : accepts (pre ++ .quiescent :: post) = true) {op : Nat} {k : Kind} {n : Nat}
    (hi : Ev.init op k n ∈ pre) : doneIn pre op := by
  obtain ⟨s1, s2, hr, hst⟩ := isRun.isSome_mid hacc
  cases Step.of_step hst with
  | quiescent hall => exact ((idInv_reach hr).done_iff op).1 (hall op ((initInv_reach hr).ops op k n hi))

end Mqtt5V.Proofs.Trace
