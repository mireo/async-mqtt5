import Mqtt5V.Model.PubSend
import Mqtt5V.Proofs.Lts
/-! A monitor automaton over the actions of one publish operation, and the invariant that ties it to the operation's state:
every history of completions keeps the monitor out of its `bad` state. -/
namespace Mqtt5V.Proofs.PubSend
open Mqtt5V.Model.PubSend

/-- what the rules below need to remember about the actions so far -/
structure Mon where
  seenWait : Bool := false     -- a PUBLISH write succeeded (the op went on to wait for PUBACK/PUBREC)
  seenRel : Bool := false      -- a PUBREL was handed to the sender (i.e. a successful PUBREC was processed)
  seenComp : Bool := false     -- the op went on to wait for PUBCOMP (its PUBREL was written)
  freed : Bool := false        -- the packet identifier was released
  completed : Bool := false    -- the handler ran
  bad : Bool := false
  deriving Repr, DecidableEq

/-- the rules:
* a PUBLISH is (re)sent with DUP = 1 exactly when an earlier write of it succeeded;
* no PUBLISH after a PUBREL (QoS 2: the message is never published again once PUBREC was accepted);
* PUBCOMP is awaited only after a PUBREL;
* the identifier is released once, and the only thing that follows is the one completion; nothing follows the completion;
* a QoS 2 publish reports a non-failing reason code only after its PUBREL was written and PUBCOMP awaited. -/
def Mon.feed (q2 : Bool) (m : Mon) : Act → Mon
  | .sendPublish d => { m with bad := m.bad || m.seenRel || m.freed || m.completed || (d != m.seenWait) }
  | .sendPubrel _ => { m with seenRel := true, bad := m.bad || m.freed || m.completed }
  | .waitAck => { m with seenWait := true, bad := m.bad || m.seenRel || m.freed || m.completed }
  | .waitPubcomp => { m with seenComp := true, bad := m.bad || m.freed || m.completed || !m.seenRel }
  | .disconnectMalformed => { m with bad := m.bad || m.freed || m.completed }
  | .freePid => { m with freed := true, bad := m.bad || m.freed || m.completed }
  | .completeOk rc _ => { m with completed := true, bad := m.bad || m.completed || !m.freed || (q2 && decide (rc < 128) && !m.seenComp) }
  | .completeErr => { m with completed := true, bad := m.bad || m.completed || !m.freed }

def Mon.feedAll (q2 : Bool) (m : Mon) : List Act → Mon
  | [] => m
  | a :: r => (m.feed q2 a).feedAll q2 r

theorem feedAll_append (q2 : Bool) (m : Mon) (a b : List Act) : m.feedAll q2 (a ++ b) = (m.feedAll q2 a).feedAll q2 b := by
  induction a generalizing m with
  | nil => rfl
  | cons x r ih => simp [Mon.feedAll, ih]

/-- the operation is still running: no rule broken, identifier not released, handler not run -/
abbrev Running (m : Mon) : Prop := m.bad = false ∧ m.freed = false ∧ m.completed = false

theorem Running.disconnect {m : Mon} (q2 : Bool) (h : Running m) : m.feed q2 .disconnectMalformed = m := by
  cases m
  obtain ⟨rfl, rfl, rfl⟩ := h
  rfl

/-- what the monitor has seen when the operation is in a given phase -/
def Rel (s : S) (m : Mon) : Prop :=
  match s.phase with
  | .sendingPublish => Running m ∧ m.seenRel = false ∧ m.seenWait = s.dup
  | .waitingAck => Running m ∧ m.seenRel = false ∧ m.seenWait = true
  | .sendingPubrel => Running m ∧ m.seenRel = true ∧ s.qos2 = true
  | .waitingPubcomp => Running m ∧ m.seenRel = true ∧ s.qos2 = true ∧ m.seenComp = true
  | .done => m.bad = false ∧ m.freed = true ∧ m.completed = true

theorem Rel.sound {s : S} {m : Mon} (h : Rel s m) : m.bad = false ∧ m.freed = m.completed := by
  obtain ⟨_, phase, _, _⟩ := s
  cases phase with
  | done =>
    obtain ⟨hbad, hfreed, hdone⟩ := h
    exact ⟨hbad, hfreed.trans hdone.symm⟩
  | _ =>
    obtain ⟨⟨hbad, hfreed, hdone⟩, _⟩ := h
    exact ⟨hbad, hfreed.trans hdone.symm⟩

theorem rel_start (qos2 : Bool) : Rel (start qos2).1 (({} : Mon).feedAll qos2 (start qos2).2) :=
  ⟨⟨rfl, rfl, rfl⟩, rfl, rfl⟩

/-! Each lemma below feeds the actions of one transition to the monitor of a running operation (`Running`): `simp` computes
`Mon.feed` from the flags the hypotheses name, and what is left is the relation for the phase the operation enters. -/

theorem rel_finishErr (s : S) {m : Mon} (h : Running m) : Rel (finishErr s).1 (m.feedAll s.qos2 (finishErr s).2) := by
  simp [Rel, finishErr, Mon.feedAll, Mon.feed, h]

theorem rel_finishOk (s : S) {m : Mon} (h : Running m) (rc props : Nat) (hc : s.qos2 = true → rc < 128 → m.seenComp = true) :
    Rel (finishOk s rc props).1 (m.feedAll s.qos2 (finishOk s rc props).2) := by
  simpa [Rel, finishOk, Mon.feedAll, Mon.feed, h] using hc

theorem rel_resendPublish (s : S) {m : Mon} (h : Running m) (hr : m.seenRel = false) {d : Bool} (hw : m.seenWait = d) :
    Rel (resendPublish s d).1 (m.feedAll s.qos2 (resendPublish s d).2) := by
  unfold resendPublish
  split
  · exact rel_finishErr _ h
  · simp [Rel, Mon.feedAll, Mon.feed, h, hr, hw]

theorem rel_sendPubrel {q2 : Bool} {m : Mon} (h : Running m) (hq : q2 = true) (t dup c : Bool) :
    Rel ⟨q2, .sendingPubrel, dup, c⟩ (m.feed q2 (.sendPubrel t)) := by
  simp [Rel, Mon.feed, h, hq]

/-- one case for each transition of `step`; the monitor's flags are never split -/
theorem rel_step (s : S) (m : Mon) (i : In) (h : Rel s m) : Rel (step s i).1 (m.feedAll s.qos2 (step s i).2) := by
  obtain ⟨q2, phase, dup, c⟩ := s
  cases i with
  | cancelSignal => exact h
  | sent r =>
    cases phase with
    | sendingPublish =>
      obtain ⟨hl, hr, hw⟩ := h
      cases r with
      | ok => simp [Rel, step, Mon.feedAll, Mon.feed, hl, hr]
      | tryAgain => exact rel_resendPublish _ hl hr hw
      | failed => exact rel_finishErr _ hl
    | sendingPubrel =>
      obtain ⟨hl, hr, hq⟩ := h
      cases r with
      | ok => simp [Rel, step, Mon.feedAll, Mon.feed, hl, hr, hq]
      | tryAgain => exact rel_sendPubrel hl hq true dup c
      | failed => exact rel_finishErr _ hl
    | _ => exact h
  | reply r =>
    cases phase with
    | waitingAck =>
      obtain ⟨hl, hr, hw⟩ := h
      have malformed : Rel (resendPublish ⟨q2, .waitingAck, dup, c⟩ true).1
          ((m.feed q2 .disconnectMalformed).feedAll q2 (resendPublish ⟨q2, .waitingAck, dup, c⟩ true).2) := by
        rw [hl.disconnect]
        exact rel_resendPublish _ hl hr hw
      cases r with
      | tryAgain => exact rel_resendPublish _ hl hr hw
      | failed => exact rel_finishErr _ hl
      | undecodable => exact malformed
      | badCode => exact malformed
      | ack rc props =>
        cases q2 with
        | false => exact rel_finishOk _ hl rc props (fun hq => nomatch hq)
        | true =>
          by_cases hrc : rc ≥ 0x80
          · simp only [step, hrc]
            exact rel_finishOk _ hl rc 0 (fun _ hlt => by omega)
          · simp only [step, hrc]
            exact rel_sendPubrel hl rfl false dup c
    | waitingPubcomp =>
      obtain ⟨hl, hr, hq, hc⟩ := h
      have malformed : Rel ⟨q2, .sendingPubrel, dup, c⟩ ((m.feed q2 .disconnectMalformed).feed q2 (.sendPubrel true)) := by
        rw [hl.disconnect]
        exact rel_sendPubrel hl hq true dup c
      cases r with
      | tryAgain => exact rel_sendPubrel hl hq true dup c
      | failed => exact rel_finishErr _ hl
      | undecodable => exact malformed
      | badCode => exact malformed
      | ack rc props => exact rel_finishOk _ hl rc props (fun _ _ => hc)
    | _ => cases r <;> exact h

theorem resendPublish_qos2 (s : S) (d : Bool) : (resendPublish s d).1.qos2 = s.qos2 := by
  unfold resendPublish
  split <;> rfl

theorem step_qos2 (s : S) (i : In) : (step s i).1.qos2 = s.qos2 := by
  obtain ⟨q2, phase, dup, c⟩ := s
  cases i with
  | cancelSignal => rfl
  | sent r => cases phase <;> cases r <;> first | rfl | exact resendPublish_qos2 _ _
  | reply r =>
    cases r with
    | ack rc props =>
      cases phase <;> try rfl
      -- left: the acknowledgement of the PUBLISH, with its three outcomes
      simp only [step]
      split
      · rfl
      · split <;> rfl
    | _ => cases phase <;> first | rfl | exact resendPublish_qos2 _ _

theorem isOutRun : Lts.IsOutRun step run := ⟨fun _ => rfl, fun _ _ _ => rfl⟩

theorem run_qos2 (is : List In) : ∀ s : S, (run s is).1.qos2 = s.qos2 := fun s =>
  isOutRun.invariant (·.qos2 = s.qos2) rfl (fun t i h => by rw [step_qos2, h]) is

theorem rel_run (is : List In) : ∀ (s : S) (m : Mon), Rel s m → Rel (run s is).1 (m.feedAll s.qos2 (run s is).2) := by
  induction is with
  | nil => intro s m h; exact h
  | cons i is ih =>
    intro s m h
    have := ih _ _ (rel_step s m i h)
    rwa [step_qos2, ← feedAll_append] at this

/-- the handler is given a reason code by `finishOk` alone, which only an acknowledgement reaches -/
theorem step_completeOk {s : S} {i : In} {rc p : Nat} (h : Act.completeOk rc p ∈ (step s i).2) :
    ∃ p', i = .reply (.ack rc p') ∧ (p = p' ∨ p = 0) := by
  have hres : ∀ t d, Act.completeOk rc p ∉ (resendPublish t d).2 := by
    intro t d
    unfold resendPublish
    split <;> simp [finishErr]
  have hfin : ∀ {t rc' p'}, Act.completeOk rc p ∈ (finishOk t rc' p').2 → rc = rc' ∧ p = p' := by
    intro t rc' p' hm
    simpa [finishOk] using hm
  obtain ⟨q2, phase, dup, c⟩ := s
  cases i with
  | cancelSignal => cases h
  | sent r => cases phase <;> cases r <;> simp [step, finishErr, hres] at h
  | reply r =>
    cases r with
    | ack rc' p' =>
      cases phase <;> simp only [step] at h
      case waitingAck =>
        split at h
        · obtain ⟨rfl, rfl⟩ := hfin h
          exact ⟨_, rfl, Or.inl rfl⟩
        · split at h
          · obtain ⟨rfl, rfl⟩ := hfin h
            exact ⟨p', rfl, Or.inr rfl⟩
          · simp at h
      case waitingPubcomp =>
        obtain ⟨rfl, rfl⟩ := hfin h
        exact ⟨_, rfl, Or.inl rfl⟩
      all_goals cases h
    | _ => cases phase <;> simp [step, finishErr, hres] at h

theorem feedAll_preserves {P : Mon → Prop} (q2 : Bool) (hP : ∀ m a, P m → P (m.feed q2 a)) (l : List Act) :
    ∀ m : Mon, P m → P (m.feedAll q2 l) := by
  induction l with
  | nil => intro m h; exact h
  | cons a r ih => intro m h; exact ih _ (hP m a h)

theorem bad_sticky (q2 : Bool) (l : List Act) : ∀ m : Mon, m.bad = true → (m.feedAll q2 l).bad = true :=
  feedAll_preserves q2 (fun m a h => by cases a <;> simp [Mon.feed, h]) l

theorem seenRel_sticky (q2 : Bool) (l : List Act) : ∀ m : Mon, m.seenRel = true → (m.feedAll q2 l).seenRel = true :=
  feedAll_preserves q2 (fun m a h => by cases a <;> simp [Mon.feed, h]) l

theorem completed_sticky (q2 : Bool) (l : List Act) : ∀ m : Mon, m.completed = true → (m.feedAll q2 l).completed = true :=
  feedAll_preserves q2 (fun m a h => by cases a <;> simp [Mon.feed, h]) l

def isWaitAck : Act → Bool | .waitAck => true | _ => false
def isPublish : Act → Bool | .sendPublish _ => true | _ => false
def isCompletion : Act → Bool | .completeOk _ _ => true | .completeErr => true | _ => false

theorem seenWait_eq (q2 : Bool) (l : List Act) : ∀ m : Mon, (m.feedAll q2 l).seenWait = (m.seenWait || l.any isWaitAck) := by
  induction l with
  | nil => intro m; simp [Mon.feedAll]
  | cons a r ih =>
    intro m
    simp only [Mon.feedAll, ih, List.any_cons]
    cases a <;> simp [Mon.feed, isWaitAck]

theorem feed_publish_ok {q2 : Bool} {m : Mon} {d : Bool} (h : (m.feed q2 (.sendPublish d)).bad = false) :
    m.seenRel = false ∧ d = m.seenWait := by
  simp only [Mon.feed, Bool.or_eq_false_iff, bne_eq_false_iff_eq] at h
  obtain ⟨⟨⟨⟨_, hrel⟩, _⟩, _⟩, hdup⟩ := h
  exact ⟨hrel, hdup⟩

theorem feed_after_completed_bad (q2 : Bool) (m : Mon) (h : m.completed = true) (a : Act) : (m.feed q2 a).bad = true := by
  cases a <;> simp [Mon.feed, h]

theorem feed_completion_completed (q2 : Bool) (m : Mon) (c : Act) (hc : isCompletion c = true) : (m.feed q2 c).completed = true := by
  cases c <;> first | rfl | cases hc

/-- all actions of one `async_publish` (QoS 1 or 2) for a history of sender / reply completions; what the statements about
the operation in Props C03, C05 and C08 speak of -/
def trace (qos2 : Bool) (is : List In) : List Act := (start qos2).2 ++ (run (start qos2).1 is).2

theorem rel_trace (qos2 : Bool) (is : List In) : Rel (run (start qos2).1 is).1 (({} : Mon).feedAll qos2 (trace qos2 is)) := by
  unfold trace
  rw [feedAll_append]
  exact rel_run is _ _ (rel_start qos2)

/-- **the rules of `Mon.feed` hold on every history**: the monitor never reaches `bad` -/
theorem rules_hold (qos2 : Bool) (is : List In) : (({} : Mon).feedAll qos2 (trace qos2 is)).bad = false :=
  (rel_trace qos2 is).sound.1

/-- `rules_hold` in the form its users need: at any split of a history, the next action passes the rules -/
theorem accepted {qos2 : Bool} {is : List In} {l1 l2 : List Act} {a : Act} (h : trace qos2 is = l1 ++ a :: l2) :
    ((({} : Mon).feedAll qos2 l1).feed qos2 a).bad = false := by
  have hr := rules_hold qos2 is
  rw [h, feedAll_append] at hr
  apply Bool.eq_false_iff.mpr
  intro hb
  exact Bool.false_ne_true (hr.symm.trans (bad_sticky qos2 l2 _ hb))

end Mqtt5V.Proofs.PubSend
