import Mqtt5V.Proofs.Trace
/-! How one step may change a slot (`slot_step`), slot properties that last until the exchange completes (`Live`), and with them C03 on
accepted event lists: no PUBLISH after the PUBREL, DUP = 0 on the first transmission, DUP = 1 after a successful write, same bytes. -/
namespace Mqtt5V.Proofs.Trace
open Mqtt5V.Model.Trace

/-- what one step can make of a slot that stays with its operation (`slot_step`); a slot property carried by `Live` has to survive
these.  `same` is possible at every event, also at those that rewrite all slots -/
inductive SlotStep (e : Ev) (sl : Slot) : Slot → Prop
  | same : SlotStep e sl sl
  | connUp (rm : Option Nat) : e = .connUp rm → SlotStep e sl sl.onConnUp
  | wrOk : e = .wrOk → SlotStep e sl sl.onWrOk
  | wrFail : e = .wrFail → SlotStep e sl sl.onWrFail
  | rx (a : Ack) : e = .rx a → SlotStep e sl (sl.onRx a)
  | resend (pk : Out) : e = .pk pk → sl.phase = .idle → SlotStep e sl { sl with phase := .writing, fast := none }
  | rel (pk : Out) : e = .pk pk → sl.phase = .relIdle → SlotStep e sl { sl with phase := .relWriting, fast := none }

theorem upd_other {s : S} {p q : Nat} {o : Option Slot} (hq : p ≠ q) : upd s.slot q o p = s.slot p := upd_ne _ _ hq

theorem slot_step {s s' : S} {e : Ev} (h : step s e = some s') {p : Nat} {sl : Slot} (hs : s.slot p = some sl) :
    s'.isDone sl.op = true ∨ ∃ sl', s'.slot p = some sl' ∧ SlotStep e sl sl' := by
  -- a step that rewrites the slot at `q` only: either `p` is another identifier, or `sl` is the slot it rewrites
  have at_upd : ∀ {q : Nat} {o : Option Slot}, (p = q → ∃ sl', o = some sl' ∧ SlotStep e sl sl') →
      ∃ sl', upd s.slot q o p = some sl' ∧ SlotStep e sl sl' := by
    intro q o ho
    by_cases hq : p = q
    · obtain ⟨sl', rfl, hst⟩ := ho hq; exact ⟨sl', hq ▸ upd_same _ _ _, hst⟩
    · exact ⟨sl, (upd_other hq).trans hs, .same⟩
  cases Step.of_step h with
  | connUp rm => exact Or.inr ⟨_, by simp [hs], .connUp rm rfl⟩
  | wrOk hw => exact Or.inr ⟨_, by simp [hs], .wrOk rfl⟩
  | wrFail hw => exact Or.inr ⟨_, by simp [hs], .wrFail rfl⟩
  | rx a => exact Or.inr (at_upd fun hq => ⟨_, by rw [← hq, hs]; rfl, .rx a rfl⟩)
  | first pk op pid body k n a g =>
    exact Or.inr (at_upd fun hq => by rw [hq, g.free] at hs; cases hs)
  | resend pk op pid body sl0 a g =>
    exact Or.inr (at_upd fun hq => by rw [hq, g.slot] at hs; cases hs; exact ⟨_, rfl, .resend pk rfl g.idle⟩)
  | rel pid sl0 hw hs0 hk hph =>
    exact Or.inr (at_upd fun hq => by rw [hq, hs0] at hs; cases hs; exact ⟨_, rfl, .rel _ rfl hph⟩)
  | doneOk op rcs props p' sl0 hnd hc hp hs0 hop =>
    by_cases hq : p = p'
    · rw [hq, hs0] at hs; cases hs; exact Or.inl (by simp [hop])
    · exact Or.inr ⟨sl, (upd_other hq).trans hs, .same⟩
  | doneFree op p' sl0 hnd hk hp hs0 hop =>
    by_cases hq : p = p'
    · rw [hq, hs0] at hs; cases hs; exact Or.inl (by simp [hop])
    · exact Or.inr ⟨sl, (upd_other hq).trans hs, .same⟩
  | _ => exact Or.inr ⟨sl, hs, .same⟩

theorem SlotStep.sameEx {e : Ev} {sl sl' : Slot} (h : SlotStep e sl sl') : SameEx sl sl' := by
  cases h with
  | connUp => exact onConnUp_same sl
  | wrOk => exact onWrOk_same sl
  | wrFail => exact onWrFail_same sl
  | rx a => exact onRx_same sl a
  | _ => exact ⟨rfl, rfl, rfl, id⟩

/-- the exchange of `op`, unless it has completed, is in a slot that satisfies `Q` -/
def Live (Q : Slot → Prop) (s : S) (op : Nat) : Prop := s.isDone op = true ∨ ∃ p sl, s.slot p = some sl ∧ sl.op = op ∧ Q sl

theorem Live.next {Q : Slot → Prop} {s s' : S} {e : Ev} {op : Nat} (hQ : ∀ sl sl', SlotStep e sl sl' → Q sl → Q sl')
    (h : step s e = some s') (hl : Live Q s op) : Live Q s' op := by
  rcases hl with hd | ⟨p, sl, hs, hop, hq⟩
  · exact Or.inl (isDone_mono h hd)
  · rcases slot_step h hs with hd | ⟨sl', hs', hst⟩
    · exact Or.inl (hop ▸ hd)
    · exact Or.inr ⟨p, sl', hs', hst.sameEx.op.trans hop, hQ sl sl' hst hq⟩

theorem Live.stable {Q : Slot → Prop} {s s' : S} {tr : List Ev} {op : Nat} (hQ : ∀ e ∈ tr, ∀ sl sl', SlotStep e sl sl' → Q sl → Q sl')
    (hr : run s tr = some s') (hl : Live Q s op) : Live Q s' op := by
  induction tr generalizing s with
  | nil => rw [isRun.nil] at hr; cases hr; exact hl
  | cons e es ih =>
    obtain ⟨s1, h1, h2⟩ := isRun.head hr
    exact ih (fun e' he' => hQ e' (by simp [he'])) h2 (hl.next (hQ e (by simp)) h1)

/-- with the identity invariant, `Live` speaks about the one slot the operation owns -/
theorem Live.at {Q : Slot → Prop} {hist : List Ev} {s : S} {op p : Nat} {sl : Slot} (I : IdInv hist s) (hl : Live Q s op)
    (hnd : s.isDone op = false) (hs : s.slot p = some sl) (hop : sl.op = op) : Q sl := by
  rcases hl with hd | ⟨p', sl', hs', hop', hq⟩
  · rw [hnd] at hd; cases hd
  · have h2 := I.pid_of_slot hs' hop'
    rw [I.pid_of_slot hs hop] at h2; cases h2; rw [hs] at hs'; cases hs'; exact hq

theorem Live.publish {Q : Slot → Prop} {hist : List Ev} {s s' : S} {op q p : Nat} {dup : Bool} {body : Nat} (I : IdInv hist s)
    (hl : Live Q s op) (h : step s (.pk (.publish op q p dup body)) = some s') :
    ∃ sl, s.slot p = some sl ∧ sl.phase = .idle ∧ (sl.okBefore = true → dup = true) ∧ Q sl := by
  cases Step.of_step h with
  | first pk op' pid body' k n a g =>
    cases g.req
    rcases hl with hd | ⟨p', sl', hs', hop', -⟩
    · rw [g.notDone] at hd; cases hd
    · have := g.new; rw [I.pid_of_slot hs' hop'] at this; cases this
  | resend pk op' pid body' sl a g =>
    cases g.req
    exact ⟨sl, g.slot, g.idle, g.dup1 _ _ _ _ _ rfl, hl.at I g.notDone g.slot g.own⟩

def relPhase : Phase → Bool
  | .relIdle | .relWriting | .relWaiting | .finished _ _ => true
  | _ => false

theorem consume_rel (sl : Slot) (a : Ack) (h : relPhase sl.phase = true) : relPhase (consume sl a).phase = true := by
  unfold consume; split
  · repeat' split
    all_goals rfl
  -- a malformed acknowledgement falls back to `idle` only from the PUBLISH stage
  · split
    · rename_i hph; simp [hph, relPhase] at h
    · rename_i hph; simp [hph, relPhase] at h
    · rename_i hph; simp [hph, relPhase] at h
    · exact h
    · rfl

/-- once past its PUBLISH stage, an exchange never goes back -/
theorem relPhase_stable {e : Ev} {sl sl' : Slot} (h : SlotStep e sl sl') (hq : relPhase sl.phase = true) : relPhase sl'.phase = true := by
  cases h with
  | same => exact hq
  | connUp =>
    unfold Slot.onConnUp; split
    · rename_i hp; simp [hp, relPhase] at hq
    · rfl
    · exact hq
  | wrOk =>
    unfold Slot.onWrOk; split
    · rename_i hp; simp [hp, relPhase] at hq
    · split
      · exact consume_rel _ _ rfl
      · rfl
    · exact hq
  | wrFail =>
    unfold Slot.onWrFail; split
    · rename_i hp; simp [hp, relPhase] at hq
    · rfl
    · exact hq
  | rx a =>
    unfold Slot.onRx; repeat' split
    · exact consume_rel _ _ hq
    · exact consume_rel _ _ hq
    all_goals exact hq
  | resend _ _ hph => simp [hph, relPhase] at hq
  | rel => rfl

/-- C03, no PUBLISH after the PUBREL; in the client's terms at `Props.C03.composed_no_publish_after_pubrel` -/
theorem no_publish_after_pubrel {pre post : List Ev} {op q p : Nat} {dup : Bool} {body : Nat}
    (hacc : accepts (pre ++ .pk (.publish op q p dup body) :: post) = true) (c : Chain [isReq op p, isRel p] pre) : False := by
  -- `pre = h1 ++ .pk pk :: (h3 ++ .pk (.pubrel p) :: h4)`, `pk` a request packet of `op` with identifier `p`
  obtain ⟨h1, _, _, rfl, ⟨pk, rfl, hreq⟩, c⟩ := c
  obtain ⟨h3, _, h4, rfl, rfl, -⟩ := c
  obtain ⟨s1, s2, hr1, hs⟩ := isRun.isSome_mid hacc
  obtain ⟨sa, sb, hra, hsb, hrb⟩ := isRun.mid (a := h1 ++ .pk pk :: h3) (by simpa using hr1)
  have Ia := idInv_reach hra
  -- the PUBREL is written from the slot of `op`, unless `op` has completed and the identifier belongs to a later operation
  have L : Live (relPhase ·.phase = true) sb op := by
    cases Step.of_step hsb with
    | first _ _ _ _ _ _ _ g => cases g.req
    | resend _ _ _ _ _ _ g => cases g.req
    | rel _ sl hw hs hk hph =>
      cases hd : sa.isDone op with
      | true => exact Or.inl hd
      | false =>
        have : owner sa p = some op := (Ia.own_iff p op).2 ⟨(Ia.uses_pid op p).1 ⟨pk, by simp, hreq⟩, hd⟩
        exact Or.inr ⟨p, _, upd_same _ _ _, by simpa [owner, hs] using this, rfl⟩
  obtain ⟨sl, _, hph, _, hq⟩ := (L.stable (fun _ _ _ _ => relPhase_stable) hrb).publish (idInv_reach hr1) hs
  simp [hph, relPhase] at hq

/-- C03, DUP = 0 on the first transmission; `Props.C03.composed_first_transmission_dup_zero` -/
theorem first_transmission_dup_zero {pre post : List Ev} {op q p : Nat} {dup : Bool} {body : Nat}
    (hacc : accepts (pre ++ .pk (.publish op q p dup body) :: post) = true) (hfirst : ∀ p', ¬ usesPid pre op p') : dup = false := by
  obtain ⟨s1, s2, hr, hst⟩ := isRun.isSome_mid hacc
  have I := idInv_reach hr
  cases Step.of_step hst with
  | first pk op' pid body' k n a g => exact g.dup0 _ _ _ _ _ rfl
  | resend pk op' pid body' sl a g =>
    cases g.req
    exact absurd ((I.uses_pid op p).2 (I.pid_of_slot g.slot g.own)) (hfirst p)

theorem slotStep_writing {e : Ev} {sl sl' : Slot} (h : SlotStep e sl sl') (hw : sl.phase = .writing) (he : isWriteEv e = false) : sl'.phase = .writing := by
  cases h with
  | same => exact hw
  | connUp _ _ => unfold Slot.onConnUp; simp only [hw]
  | wrOk h1 => subst h1; simp [isWriteEv] at he
  | wrFail h1 => subst h1; simp [isWriteEv] at he
  | rx a _ =>
    unfold Slot.onRx; split
    · split
      · rename_i h1; rw [hw] at h1; cases h1
      · rename_i h1; rw [hw] at h1; cases h1
      · split <;> exact hw
    · exact hw
  | resend _ _ hph => simp [hw] at hph
  | rel _ _ hph => simp [hw] at hph

theorem onWrOk_sets_okBefore (sl : Slot) (hw : sl.phase = .writing) : sl.onWrOk.okBefore = true := by
  simp only [Slot.onWrOk, hw]
  split
  · exact (consume_same _ _).okb rfl
  · rfl

/-- C03, DUP = 1 after a successful write; in the client's terms at `Props.C03.composed_dup_after_successful_write` -/
theorem dup_after_successful_write {pre post : List Ev} {op q p : Nat} {dup : Bool} {body : Nat}
    (hacc : accepts (pre ++ .pk (.publish op q p dup body) :: post) = true) (hw : writtenOk pre op) : dup = true := by
  obtain ⟨h1, q', p', d', b', mid, h2, rfl, hmid⟩ := hw
  obtain ⟨s1, s2, hr1, hst⟩ := isRun.isSome_mid hacc
  obtain ⟨sc, sd, hrc, hsd, hrd⟩ := isRun.mid hr1
  obtain ⟨sa, sb, hra, hsb, hrb⟩ := isRun.mid hrc
  -- the earlier PUBLISH puts the slot of `op` into the write in progress; it stays there over `mid`, which has no write event
  have Lb : Live (·.phase = .writing) sb op := by
    cases Step.of_step hsb with
    | first pk op' pid body' k n a g => cases g.req; exact Or.inr ⟨p', _, upd_same _ _ _, rfl, rfl⟩
    | resend pk op' pid body' sl a g => cases g.req; exact Or.inr ⟨p', _, upd_same _ _ _, g.own, rfl⟩
  have Lc := Lb.stable (fun e he _ _ hs hph => slotStep_writing hs hph (hmid e he)) hrb
  -- the successful end of that write sets `okBefore`, for good
  have Ld : Live (·.okBefore = true) sd op := by
    cases Step.of_step hsd with
    | wrOk hw =>
      rcases Lc with hd | ⟨p, sl, hs, hop, hph⟩
      · exact Or.inl hd
      · exact Or.inr ⟨p, sl.onWrOk, by simp [hs], (onWrOk_same sl).op.trans hop, onWrOk_sets_okBefore sl hph⟩
  obtain ⟨sl, _, _, hdup, hok⟩ := (Ld.stable (fun _ _ _ _ hs => hs.sameEx.okb) hrd).publish (idInv_reach hr1) hst
  exact hdup hok

/-- the bytes an operation's request was first written with are remembered; they are recorded at the moment the identifier is -/
structure BodyInv (hist : List Ev) (s : S) : Prop where
  body : ∀ op b, usesBody hist op b → s.bodyOf op = some b
  fresh : ∀ op, s.pidOf op = none → s.bodyOf op = none

theorem bodyInv_step (hist : List Ev) (s : S) (e : Ev) (s' : S) (I : BodyInv hist s) (h : step s e = some s') :
    BodyInv (hist ++ [e]) s' := by
  cases Step.of_step h with
  | first pk op pid body k n a g =>
    refine ⟨fun op' b' hu => ?_, fun op' h1 => ?_⟩
    · simp only [upd]
      rcases (usesBody_snoc _ _ _ _).1 hu with hu | ⟨pk', he, hr'⟩
      · split
        · rename_i hop; have := I.body _ _ hu; rw [hop, I.fresh _ g.new] at this; cases this
        · exact I.body _ _ hu
      · cases he; rw [g.reqBody] at hr'; cases hr'; simp
    · simp only [upd] at h1 ⊢
      split at h1
      · cases h1
      · rename_i hop; simp only [hop, if_false]; exact I.fresh _ h1
  | resend pk op pid body sl a g =>
    refine ⟨fun op' b' hu => ?_, I.fresh⟩
    rcases (usesBody_snoc _ _ _ _).1 hu with hu | ⟨pk', he, hr'⟩
    · exact I.body _ _ hu
    · cases he; rw [g.reqBody] at hr'; cases hr'; exact g.sameBody
  | _ =>
    refine ⟨fun op b hu => I.body op b (((usesBody_snoc _ _ _ _).1 hu).resolve_right ?_), I.fresh⟩
    rintro ⟨pk, he, hr⟩
    cases he <;> cases hr

/-- C03 / C02, same bytes at every transmission; `Props.C03.composed_retransmission_identical` -/
theorem retransmission_identical {tr : List Ev} (hacc : accepts tr = true) {op b1 b2 : Nat}
    (u1 : usesBody tr op b1) (u2 : usesBody tr op b2) : b1 = b2 := by
  obtain ⟨s, hr⟩ := Option.isSome_iff_exists.1 hacc
  have I := (isRun.reach BodyInv ⟨by simp [usesBody], by simp [init]⟩ bodyInv_step hr).body
  simpa [I op b1 u1] using I op b2 u2

end Mqtt5V.Proofs.Trace
