import Mqtt5V.Model.Frame
/-! Lemmas about the frame reassembly model: verdicts of the parser are stable under appending bytes, every packet taken off
the buffer shrinks it, the fuel of `drain` is never exhausted, and draining distributes over chunk boundaries. -/
namespace Mqtt5V.Proofs.Frame
open Mqtt5V.Wire Mqtt5V.Model.Frame

theorem varint_append (r c : Bs) (h : varint r ≠ .need) : varint (r ++ c) = varint r := by
  revert h
  fun_cases varint r <;> intro h
  all_goals first
    | exact absurd rfl h
    | simp [varint, *]

theorem varint_need_short (r : Bs) (h : varint r = .need) : r.length ≤ 3 := by
  revert h
  fun_cases varint r <;> intro h
  all_goals first
    | (cases h; done)
    | (simp only [List.length_cons, List.length_nil]; omega)

theorem varint_ok_used (r : Bs) (v u : Nat) (h : varint r = .ok v u) : 1 ≤ u ∧ u ≤ r.length := by
  revert h
  fun_cases varint r <;> intro h
  all_goals first
    | (cases h; done)
    | (injection h with _ h; subst h; simp only [List.length_cons]; omega)

theorem parseOne_packet_inv {max : Nat} {b : Bs} {cb : Nat} {body rest : Bs} (h : parseOne max b = .packet cb body rest) :
    ∃ r v u, b = cb :: r ∧ cb / 16 ≠ 0 ∧ varint r = .ok v u ∧ 1 ≤ u ∧ v ≤ max - (1 + u) ∧ u + v ≤ r.length ∧
      body = (r.drop u).take v ∧ rest = (r.drop u).drop v := by
  revert h
  fun_cases parseOne max b <;> intro h
  -- the fifth branch of `parseOne` is the one that returns a packet
  case case5 h0 v u hv h1 h2 =>
    cases h
    have hu := varint_ok_used _ v u hv
    exact ⟨_, v, u, rfl, h0, hv, hu.1, by omega, by omega, rfl, rfl⟩
  all_goals first
    | (cases h; done)
    | (split at h <;> cases h)

theorem parseOne_packet_shorter {max : Nat} {b : Bs} {cb : Nat} {body rest : Bs} (h : parseOne max b = .packet cb body rest) :
    rest.length + 2 ≤ b.length := by
  -- `b = cb :: r`; the length field says `v` in `u ≥ 1` bytes, `u + v ≤ r.length` (`hl`); `rest` is `r` without these `u + v`
  obtain ⟨r, v, u, rfl, _, _, hu, _, hl, _, rfl⟩ := parseOne_packet_inv h
  simp only [List.length_drop, List.length_cons]
  omega

theorem parseOne_append (max : Nat) (b c : Bs) (h : parseOne max b ≠ .more) :
    parseOne max (b ++ c) = match parseOne max b with
      | .packet cb body rest => .packet cb body (rest ++ c)
      | s => s := by
  revert h
  fun_cases parseOne max b <;> intro h
  -- branches 2, 3, 7 return `.malformed` (type 0, length over the limit, no length in five bytes), 5 a packet, the others `.more`
  case case2 b0 r0 h0 => simp [parseOne, h0]
  case case3 b0 r0 h0 v u hv h1 => simp [parseOne, h0, varint_append r0 c (by rw [hv]; nofun), hv, h1]
  case case5 b0 r0 h0 v u hv h1 h2 =>
    have hu := varint_ok_used r0 v u hv
    have h3 : ¬ (r0.length + c.length - u < v) := by omega
    simp only [List.cons_append, parseOne, h0, varint_append r0 c (by rw [hv]; nofun), hv, h1, List.length_append, h3, if_false]
    rw [List.drop_append_of_le_length hu.2, List.take_append_of_le_length (by simp; omega),
      List.drop_append_of_le_length (by simp; omega)]
  case case7 b0 r0 h0 hv hl =>
    rw [if_neg hl]
    simp only [List.length_cons] at hl
    -- four continuation bytes: with fewer the parser would still be waiting (`varint_need_short`)
    have hbad : varint r0 = .bad := by
      cases hvr : varint r0 with
      | ok v u => exact absurd hvr (hv v u)
      | need => have := varint_need_short r0 hvr; omega
      | bad => rfl
    have hl' : ¬ (r0.length + c.length + 1 < 5) := by omega
    simp [parseOne, h0, varint_append r0 c (by rw [hbad]; nofun), hbad, hl']
  -- left: the branches that return `.more` (empty buffer, body incomplete, no length yet in fewer than five bytes), against `h`
  all_goals exact absurd (by first | rfl | exact if_pos ‹_›) h

theorem parseOne_malformed_append {max : Nat} {b : Bs} (c : Bs) (h : parseOne max b = .malformed) : parseOne max (b ++ c) = .malformed := by
  rw [parseOne_append max b c (by rw [h]; nofun), h]

theorem parseOne_packet_append {max : Nat} {b : Bs} (c : Bs) {cb : Nat} {body rest : Bs} (h : parseOne max b = .packet cb body rest) :
    parseOne max (b ++ c) = .packet cb body (rest ++ c) := by
  rw [parseOne_append max b c (by rw [h]; nofun), h]

theorem drain_fuel (max : Nat) (b : Bs) (f1 f2 : Nat) (h1 : b.length + 1 ≤ f1) (h2 : b.length + 1 ≤ f2) :
    drain max f1 b = drain max f2 b := by
  match f1, f2 with
  | f1 + 1, f2 + 1 =>
    simp only [drain]
    cases hp : parseOne max b with
    | more => rfl
    | malformed => rfl
    | packet cb body rest =>
      have hs := parseOne_packet_shorter hp
      dsimp only
      rw [drain_fuel max rest f1 f2 (by omega) (by omega)]
termination_by b.length
decreasing_by omega

theorem drain_eq_full (max : Nat) (b : Bs) (f : Nat) (h : b.length + 1 ≤ f) : drain max f b = drainFull max b :=
  drain_fuel max b f (b.length + 1) h (Nat.le_refl _)

/-- the events one recognised packet contributes (header check, PINGRESP, reply, message); `none`: the stream ends in an error.
`drain` has this cascade inline with the recursive call in four of its leaves; taken out of the recursion, `drainFull_append` and
`drainFull_left_is_stuck` go through without a case for each kind of packet. -/
def emitted (cb : Nat) (body : Bs) : Option (List Ev) :=
  if !validHeader cb then none else
  if cb / 16 = 13 then some []
  else if cb / 16 ≠ 3 ∧ cb / 16 ≠ 15 ∧ cb / 16 ≠ 14 then
    if body.length < 2 then none
    else some [.reply (cb / 16) (body.getD 0 0 * 256 + body.getD 1 0) (body.drop 2)]
  else some [.msg cb body]

/-- the outcome of the loop on a recognised packet, given the outcome `next` on the rest of the buffer -/
def after (cb : Nat) (body : Bs) (next : Out) : Out :=
  match emitted cb body with
  | none => ([.err], none)
  | some evs => (evs ++ next.1, next.2)

theorem drainFull_unfold (max : Nat) (b : Bs) : drainFull max b = match parseOne max b with
    | .more => ([], some b)
    | .malformed => ([.err], none)
    | .packet cb body rest => after cb body (drainFull max rest) := by
  rw [drainFull, drain]
  cases hp : parseOne max b with
  | more => rfl
  | malformed => rfl
  | packet cb body rest =>
    have hs := parseOne_packet_shorter hp
    dsimp only
    rw [drain_eq_full max rest b.length (by omega)]
    unfold after
    fun_cases emitted cb body <;> simp [*, consEv]

theorem andThen_consEv (e : Ev) (p : Out) (k : Bs → Out) : andThen (consEv e p) k = consEv e (andThen p k) := by
  unfold andThen consEv
  cases p.2 <;> simp

theorem andThen_after (cb : Nat) (body : Bs) (p : Out) (k : Bs → Out) :
    andThen (after cb body p) k = after cb body (andThen p k) := by
  unfold after andThen
  cases emitted cb body with
  | none => rfl
  | some evs => cases p.2 <;> simp

/-- `drainFull` as the recursion over the packets it takes off the buffer, without fuel: the three ways `parseOne` can come out,
each with what `drainFull` then is -/
theorem drainFull_induction (max : Nat) {P : Bs → Prop}
    (more : ∀ b, parseOne max b = .more → drainFull max b = ([], some b) → P b)
    (malformed : ∀ b, parseOne max b = .malformed → drainFull max b = ([.err], none) → P b)
    (packet : ∀ b cb body rest, parseOne max b = .packet cb body rest → drainFull max b = after cb body (drainFull max rest) → P rest → P b)
    (b : Bs) : P b := by
  have e := drainFull_unfold max b
  cases hp : parseOne max b with
  | more => exact more b hp (by rw [e, hp])
  | malformed => exact malformed b hp (by rw [e, hp])
  | packet cb body rest =>
    have hs := parseOne_packet_shorter hp
    exact packet b cb body rest hp (by rw [e, hp]) (drainFull_induction max more malformed packet rest)
termination_by b.length
decreasing_by omega

theorem drainFull_append (max : Nat) (b c : Bs) :
    drainFull max (b ++ c) = andThen (drainFull max b) (fun r => drainFull max (r ++ c)) := by
  induction b using drainFull_induction max with
  | more b _ e => simp [e, andThen]
  | malformed b hp e => rw [e, drainFull_unfold, parseOne_malformed_append c hp]; rfl
  | packet b cb body rest hp e ih => rw [e, drainFull_unfold, parseOne_packet_append c hp, andThen_after, ← ih]

theorem drainFull_left_is_stuck (max : Nat) (b r : Bs) (h : (drainFull max b).2 = some r) : drainFull max r = ([], some r) := by
  induction b using drainFull_induction max with
  | more b _ e =>
    rw [e] at h
    cases h
    exact e
  | malformed b _ e => rw [e] at h; cases h
  | packet b cb body rest _ e ih =>
    rw [e] at h
    dsimp only [after] at h
    split at h
    · cases h
    · exact ih h

theorem feedAll_none (max : Nat) (cs : List Bs) : feedAll max none cs = ([], none) := by
  induction cs with
  | nil => rfl
  | cons c cs ih => simp [feedAll, feed, ih]

/-- the hypothesis: the buffer holds no whole packet, as after every read (`drainFull_left_is_stuck`) -/
theorem feedAll_eq_drain (max : Nat) (cs : List Bs) : ∀ buf : Bs, drainFull max buf = ([], some buf) →
    feedAll max (some buf) cs = drainFull max (buf ++ cs.flatten) := by
  induction cs with
  | nil => intro buf h; simp [feedAll, h]
  | cons c cs ih =>
    intro buf _
    have ha := drainFull_append max (buf ++ c) cs.flatten
    simp only [feedAll, feed, List.flatten_cons, ← List.append_assoc]
    rw [ha]
    cases hr : (drainFull max (buf ++ c)).2 with
    | none => simp [andThen, hr, feedAll_none]
    | some r =>
      have hst := drainFull_left_is_stuck max (buf ++ c) r hr
      rw [ih r hst]
      simp [andThen, hr]

end Mqtt5V.Proofs.Frame
