import Mqtt5V.Model.Dec
/-! In-bounds lemmas for the index-based decoder model: when the limit a parser is given lies inside the received
packet, no read outside the packet happens; and positions only move forward, never beyond the limit.
Each proof follows its decoder construct by construct: `good_bind` for `Res.bind`, `good_map` for a final `.ok (g v) p`,
`good_ite` for `if`, `good_whole` for `whole`. -/
namespace Mqtt5V.Proofs.Dec
open Mqtt5V.Wire Mqtt5V.Model.Dec Mqtt5V.Gen.PropTable

def Res.inb {α} : Res α → Prop
  | .oob => False
  | _ => True

/-- result is not a read outside the packet, and a success ends at a position ≤ lim (and ≥ start) -/
def Good {α} (pos lim : Nat) (r : Res α) : Prop :=
  match r with
  | .ok _ p => pos ≤ p ∧ p ≤ lim
  | .fail => True
  | .oob => False

theorem good_ok {α} {p lim : Nat} {v : α} (h : p ≤ lim) : Good p lim (.ok v p) := ⟨Nat.le_refl _, h⟩

theorem Good.mono {α} {pos pos' lim lim' : Nat} {r : Res α} (h : Good pos lim r) (hp : pos' ≤ pos) (hl : lim ≤ lim') :
    Good pos' lim' r := by
  cases r with
  | ok v p => exact ⟨Nat.le_trans hp h.1, Nat.le_trans h.2 hl⟩
  | fail => trivial
  | oob => exact h

theorem good_bind {α β} {pos lim : Nat} {r : Res α} {f : α → Nat → Res β}
    (hr : Good pos lim r) (hf : ∀ v p, p ≤ lim → Good p lim (f v p)) : Good pos lim (r.bind f) := by
  cases r with
  | ok v p => exact (hf v p hr.2).mono hr.1 (Nat.le_refl _)
  | fail => trivial
  | oob => exact hr

theorem good_map {α β} {pos lim : Nat} {r : Res α} {g : α → β} (hr : Good pos lim r) :
    Good pos lim (r.bind fun v p => .ok (g v) p) :=
  good_bind hr fun _ _ h => good_ok h

theorem good_ite {α} {pos lim : Nat} {P : Prop} [Decidable P] {a b : Res α}
    (ha : P → Good pos lim a) (hb : ¬ P → Good pos lim b) : Good pos lim (if P then a else b) := by
  split
  · exact ha ‹_›
  · exact hb ‹_›

theorem good_whole {α} {pos lim : Nat} {r : Res α} (h : Good pos lim r) : Good pos lim (whole lim r) := by
  cases r with
  | ok v p =>
    simp only [whole]
    split
    · exact h
    · trivial
  | fail => trivial
  | oob => exact h

theorem bind_eq_ok {α β} {r : Res α} {f : α → Nat → Res β} {v : β} {p : Nat} (h : r.bind f = .ok v p) :
    ∃ a q, r = .ok a q ∧ f a q = .ok v p := by
  cases r with
  | ok a q => exact ⟨a, q, rfl, h⟩
  | fail => cases h
  | oob => cases h

theorem whole_eq_ok {α} {lim : Nat} {r : Res α} {v : α} {p : Nat} (h : whole lim r = .ok v p) : r = .ok v p ∧ p = lim := by
  cases r with
  | ok a q =>
    simp only [whole] at h
    split at h
    · exact ⟨h, by injection h with _ hq; omega⟩
    · cases h
  | fail => cases h
  | oob => cases h

theorem byte_good (c : Ctx) (pos lim : Nat) (h : lim ≤ c.realLast) : Good pos lim (byte c pos lim) :=
  good_ite (fun _ => trivial) fun _ => good_ite (fun _ => False.elim (by omega)) fun _ => ⟨by omega, by omega⟩

theorem bigWord_good (c : Ctx) (pos lim : Nat) (h : lim ≤ c.realLast) : Good pos lim (bigWord c pos lim) :=
  good_bind (byte_good c pos lim h) fun _ p _ => good_map (byte_good c p lim h)

theorem bigDword_good (c : Ctx) (pos lim : Nat) (h : lim ≤ c.realLast) : Good pos lim (bigDword c pos lim) :=
  good_bind (bigWord_good c pos lim h) fun _ p _ => good_map (bigWord_good c p lim h)

theorem varint_good (c : Ctx) (pos lim : Nat) (h : lim ≤ c.realLast) : Good pos lim (varint c pos lim) :=
  good_bind (byte_good c pos lim h) fun _ p0 h0 => good_ite (fun _ => good_ok h0) fun _ =>
  good_bind (byte_good c p0 lim h) fun _ p1 h1 => good_ite (fun _ => good_ok h1) fun _ =>
  good_bind (byte_good c p1 lim h) fun _ p2 h2 => good_ite (fun _ => good_ok h2) fun _ =>
  good_bind (byte_good c p2 lim h) fun _ _ h3 => good_ite (fun _ => good_ok h3) fun _ => trivial

theorem slice_good (c : Ctx) (pos n lim : Nat) (h : lim ≤ c.realLast) : Good pos lim (slice c pos n lim) :=
  good_ite (fun _ => trivial) fun _ => good_ite (fun _ => False.elim (by omega)) fun _ => ⟨by omega, by omega⟩

theorem lenPrefix_good (c : Ctx) (pos lim : Nat) (h : lim ≤ c.realLast) : Good pos lim (lenPrefix c pos lim) :=
  good_bind (bigWord_good c pos lim h) fun n p _ => slice_good c p n lim h

theorem value_good (k : Kind) (c : Ctx) (pos lim : Nat) (h : lim ≤ c.realLast) : Good pos lim (value k c pos lim) := by
  cases k
  · exact good_map (byte_good c pos lim h)
  · exact good_map (bigWord_good c pos lim h)
  · exact good_map (bigDword_good c pos lim h)
  · exact good_map (varint_good c pos lim h)
  · exact good_map (lenPrefix_good c pos lim h)
  · exact good_bind (lenPrefix_good c pos lim h) fun _ p _ => good_map (lenPrefix_good c p lim h)

theorem propLoop_good (allowed : List Nat) (c : Ctx) (slast : Nat) (h : slast ≤ c.realLast) :
    ∀ fuel pos acc, pos ≤ slast → Good pos slast (propLoop allowed c fuel pos slast acc) := by
  intro fuel
  induction fuel with
  | zero => intro pos acc _; trivial
  | succ fuel ih =>
    intro pos acc hp
    simp only [propLoop]
    refine good_ite (fun _ => good_ok hp) fun _ => good_ite (fun _ => False.elim (by omega)) fun _ =>
      good_ite (fun _ => trivial) fun _ => ?_
    split
    · trivial
    · rename_i k _ _
      have hv := value_good k c (pos + 1) slast h
      cases hval : value k c (pos + 1) slast with
      | ok v p => rw [hval] at hv; exact (ih p _ hv.2).mono (Nat.le_of_succ_le hv.1) (Nat.le_refl _)
      | fail => trivial
      | oob => rw [hval] at hv; exact hv

theorem props_good (allowed : List Nat) (c : Ctx) (pos lim : Nat) (h : lim ≤ c.realLast) (hp : pos ≤ lim) :
    Good pos lim (props allowed c pos lim) :=
  good_ite (fun _ => good_ok hp) fun _ =>
  good_bind (varint_good c pos lim h) fun len p _ => good_ite (fun _ => trivial) fun _ =>
  have hs : p + len ≤ lim := by omega
  good_map ((propLoop_good allowed c (p + len) (by omega) (len + 1) p [] (by omega)).mono (Nat.le_refl _) hs)

end Mqtt5V.Proofs.Dec
