import Mqtt5V.Model.Dec
import Mqtt5V.Proofs.Enc
/-! Round trip of the decoder index model on encoded bytes placed anywhere in a buffer (C18).

The model is written as chains of `Res.bind`; `Decodes` says what one decoder reads from given bytes, `Decodes.bind` composes
two such facts along a `Res.bind`, and the lemma about a decoder is then the composition of the lemmas about its parts. -/
namespace Mqtt5V.Proofs.DecRoundtrip
open Mqtt5V.Wire Mqtt5V.Model.Dec Mqtt5V.Model.Enc Mqtt5V.Proofs.Enc Mqtt5V.Gen.PropTable Mqtt5V.Model.PropsText

/-- the bytes `bs` stand in the buffer at index `pos` -/
def At (mem : Bs) : Nat → Bs → Prop
  | _, [] => True
  | pos, x :: r => mem[pos]? = some x ∧ At mem (pos + 1) r

theorem At_append (mem : Bs) (a b : Bs) : ∀ pos, At mem pos (a ++ b) ↔ At mem pos a ∧ At mem (pos + a.length) b := by
  induction a with
  | nil => intro pos; simp [At]
  | cons x r ih =>
    intro pos
    simp only [List.cons_append, At, ih (pos + 1), List.length_cons]
    have : pos + 1 + r.length = pos + (r.length + 1) := by omega
    rw [this]
    exact and_assoc.symm

theorem At_self (pre bs post : Bs) : At (pre ++ bs ++ post) pre.length bs := by
  induction bs generalizing pre with
  | nil => trivial
  | cons x r ih =>
    refine ⟨by simp, ?_⟩
    have := ih (pre ++ [x])
    simpa using this

theorem At_take (mem : Bs) (bs : Bs) : ∀ pos, At mem pos bs → (mem.drop pos).take bs.length = bs := by
  induction bs with
  | nil => intro pos _; simp
  | cons x r ih =>
    intro pos ⟨h1, h2⟩
    obtain ⟨hlt, hx⟩ := List.getElem?_eq_some_iff.mp h1
    rw [List.drop_eq_getElem_cons hlt, hx, List.length_cons, List.take_succ_cons, ih (pos + 1) h2]

theorem getD_of_At (mem : Bs) (pos x : Nat) (r : Bs) (h : At mem pos (x :: r)) : mem.getD pos 0 = x := by
  have := h.1
  simp [List.getD, this]

/-- The index decoder `d`, started on the bytes `bs` standing anywhere in a buffer, inside the received packet, with its limit
`e` bytes behind their end, yields `v` and stops right after them.  A field reads for every `e`; only "all bytes up to the limit"
(the PUBLISH payload, the SUBACK codes) needs `e = 0`.  An `At` fact without a tail is given as `by rw [List.append_nil]; exact h`, which makes `r` the empty list. -/
def Decodes {α} (e : Nat) (d : Ctx → Nat → Nat → Res α) (bs : Bs) (v : α) : Prop :=
  ∀ mem rl pos lim r, At mem pos (bs ++ r) → pos + bs.length + e = lim → pos + bs.length ≤ rl →
    d ⟨mem, rl⟩ pos lim = .ok v (pos + bs.length)

section
variable {α β : Type} {e : Nat} {d : Ctx → Nat → Nat → Res α} {bs : Bs} {v : α}

theorem Decodes.pure (v : α) (e : Nat) : Decodes e (fun _ pos _ => .ok v pos) [] v :=
  fun _ _ _ _ _ _ _ _ => rfl

theorem Decodes.cast {v' : α} (h : Decodes e d bs v) (hv : v = v') : Decodes e d bs v' := hv ▸ h

theorem Decodes.map (hd : Decodes e d bs v) (g : α → β) :
    Decodes e (fun c pos lim => (d c pos lim).bind fun x p => .ok (g x) p) bs (g v) := by
  intro mem rl pos lim r h h1 h2
  simp only [hd mem rl pos lim r h h1 h2, Res.bind]

/-- `hd` for every `e` (the bytes of `f v` lie between its own and the limit), so the `_ok` lemmas below take `e` last and explicit.
The bytes must stand as `bs ++ b`: reassociate a left-nested encoding first. -/
theorem Decodes.bind {f : α → Ctx → Nat → Nat → Res β} {b : Bs} {y : β} (hd : ∀ e, Decodes e d bs v) (hf : Decodes e (f v) b y) :
    Decodes e (fun c pos lim => (d c pos lim).bind fun x p => f x c p lim) (bs ++ b) y := by
  intro mem rl pos lim r h h1 h2
  rw [List.append_assoc] at h
  rw [List.length_append] at h1 h2
  simp only [hd (b.length + e) mem rl pos lim (b ++ r) h (by omega) (by omega), Res.bind]
  rw [hf mem rl (pos + bs.length) lim r ((At_append mem bs (b ++ r) pos).mp h).2 (by omega) (by omega)]
  simp only [List.length_append, Nat.add_assoc]

variable {A B : Ctx → Nat → Nat → Res α} {cond : Prop} [Decidable cond]

theorem Decodes.ite {b : Bs} {y : α} (hA : Decodes e A bs v) (hB : Decodes e B b y) :
    Decodes e (fun c p lim => if cond then A c p lim else B c p lim) (if cond then bs else b) (if cond then v else y) := by
  by_cases hc : cond
  · simp only [if_pos hc]; exact hA
  · simp only [if_neg hc]; exact hB

/-- a test on the position alone ("nothing left to read?") is passed when bytes are given -/
theorem Decodes.guard (hne : bs ≠ []) (hB : Decodes e B bs v) :
    Decodes e (fun c p lim => if p ≥ lim then A c p lim else B c p lim) bs v := by
  intro mem rl pos lim r h h1 h2
  have := List.length_pos_iff.mpr hne
  simp only [if_neg (show ¬ pos ≥ lim by omega)]
  exact hB mem rl pos lim r h h1 h2

variable {n : Nat} {mem : Bs} {rl pos lim : Nat} {r : Bs}

/-- `n`: the caller's own expression for the length of the bytes (`1 + propsSize false ps`, …), so that nothing has to be rewritten
where the fact is used -/
theorem Decodes.run (hd : Decodes e d bs v) (hn : bs.length = n) (h : At mem pos (bs ++ r)) (hl : pos + n + e = lim) (hrl : pos + n ≤ rl) :
    d ⟨mem, rl⟩ pos lim = .ok v (pos + n) := by
  subst hn
  exact hd mem rl pos lim r h hl hrl

theorem Decodes.whole (hd : Decodes 0 d bs v) (hn : bs.length = n) (h : At mem pos (bs ++ r)) (hrl : pos + n ≤ rl) :
    whole (pos + n) (d ⟨mem, rl⟩ pos (pos + n)) = .ok v (pos + n) := by
  rw [hd.run hn h (Nat.add_zero _) hrl, Mqtt5V.Model.Dec.whole, if_pos rfl]

end

theorem byte_ok (x e : Nat) : Decodes e byte [x] x := by
  intro mem rl pos lim r h h1 h2
  simp only [List.length_singleton] at h1 h2
  simp only [byte, if_neg (show ¬ pos ≥ lim by omega), if_neg (show ¬ pos ≥ rl by omega), getD_of_At mem pos x r h,
    List.length_singleton]

theorem bigWord_bytes (a b e : Nat) : Decodes e bigWord [a, b] (a * 256 + b) :=
  Decodes.bind (byte_ok a) ((byte_ok b e).map (a * 256 + ·))

theorem bigWord_ok {n : Nat} (hn : n < 65536) (e : Nat) : Decodes e bigWord (be16 n) n :=
  (bigWord_bytes _ _ e).cast (be16_value hn)

theorem bigDword_bytes (a b c d e : Nat) : Decodes e bigDword [a, b, c, d] (((a * 256 + b) * 256 + c) * 256 + d) :=
  (Decodes.bind (bigWord_bytes a b) ((bigWord_bytes c d e).map (_ * 65536 + ·))).cast (by omega)

theorem bigDword_ok {n : Nat} (hn : n < 4294967296) (e : Nat) : Decodes e bigDword (be32 n) n :=
  (bigDword_bytes _ _ _ _ e).cast (be32_value hn)

theorem varint_cont {d e : Nat} {A K : Nat → Ctx → Nat → Nat → Res Nat} {b : Bs} {y : Nat} (hK : Decodes e (K (d + 128)) b y) :
    Decodes e (fun c pos lim => (byte c pos lim).bind fun v p => if v < 128 then A v c p lim else K v c p lim)
      ((d + 128) :: b) y :=
  Decodes.bind (byte_ok _) (by simp only [if_neg (cont_not_lt d)]; exact hK)

theorem varint_last {x : Nat} (hx : x < 128) {e : Nat} {g : Nat → Nat} {K : Nat → Ctx → Nat → Nat → Res Nat} {y : Nat} (hv : g x = y) :
    Decodes e (fun c pos lim => (byte c pos lim).bind fun v p => if v < 128 then .ok (g v) p else K v c p lim) [x] y :=
  Decodes.bind (byte_ok x) (by simp only [if_pos hx]; exact (Decodes.pure _ e).cast hv)

theorem cont_mod {d : Nat} (h : d < 128) : (d + 128) % 128 = d := by omega

/-- the index decoder reads every numeral of at most four bytes (it does not ask for the minimal form, so `hv` goes unused) -/
theorem varint_decodes {bs : Bs} {n : Nat} (h : IsVarint bs n) (hn : n ≤ 268435455) (e : Nat) : Decodes e varint bs n := by
  rcases h with ⟨h0⟩ | ⟨h0, hv, ⟨h1⟩ | ⟨h1, hv1, ⟨h2⟩ | ⟨h2, hv2, ⟨h3⟩ | ⟨h3, hv3, _⟩⟩⟩⟩
  · exact varint_last h0 rfl
  · exact varint_cont (varint_last h1 (by rw [cont_mod h0]; omega))
  · exact varint_cont (varint_cont (varint_last h2 (by rw [cont_mod h0, cont_mod h1]; omega)))
  · exact varint_cont (varint_cont (varint_cont (varint_last h3 (by rw [cont_mod h0, cont_mod h1, cont_mod h2]; omega))))
  · omega

theorem varint_ok {n : Nat} (hn : n ≤ 268435455) (e : Nat) : Decodes e varint (toVariableBytes n) n :=
  varint_decodes (toVariableBytes_isVarint hn) hn e

theorem slice_ok (bs : Bs) (e : Nat) : Decodes e (fun c pos lim => slice c pos bs.length lim) bs bs := by
  intro mem rl pos lim r h h1 h2
  simp only [slice, if_neg (show ¬ pos + bs.length > lim by omega), if_neg (show ¬ pos + bs.length > rl by omega),
    At_take mem bs pos ((At_append mem bs r pos).mp h).1]

theorem rest_ok (bs : Bs) : Decodes 0 (fun c pos lim => slice c pos (lim - pos) lim) bs bs := by
  intro mem rl pos lim r h h1 h2
  show slice _ pos (lim - pos) lim = _
  rw [show lim - pos = bs.length by omega]
  exact slice_ok bs 0 mem rl pos lim r h h1 h2

theorem lenPrefix_ok {s : Bs} (hs : s.length ≤ 65535) (e : Nat) : Decodes e lenPrefix (lenPrefixed s) s :=
  Decodes.bind (bigWord_ok (show s.length < 65536 by omega)) (slice_ok s e)

theorem value_ok {v : PVal} (hv : WFVal v) (e : Nat) : Decodes e (value (kindOfVal v)) (PVal.encode v) v := by
  cases v with
  | u8 n => rw [PVal.encode, Nat.mod_eq_of_lt hv]; exact (byte_ok n e).map PVal.u8
  | u16 n => exact (bigWord_ok hv e).map PVal.u16
  | u32 n => exact (bigDword_ok hv e).map PVal.u32
  | vint n => exact (varint_ok hv e).map PVal.vint
  | str b => exact (lenPrefix_ok hv e).map PVal.str
  | pair k w => exact Decodes.bind (lenPrefix_ok hv.1) ((lenPrefix_ok hv.2 e).map (PVal.pair k))

/-- a property the packet type may carry, typed as the library's own property table says, with a value that fits its wire type -/
def WFPropD (allowed : List Nat) (p : Property) : Prop :=
  p.id < 256 ∧ allowed.contains p.id = true ∧ (∃ m, kindOf p.id = some (kindOfVal p.val, m)) ∧ WFVal p.val

theorem length_le_bodySize (ps : Props) : ps.length ≤ propsBodySize ps := by
  induction ps with
  | nil => simp [propsBodySize]
  | cons p ps ih => simp only [List.length_cons, propsBodySize, propSize]; omega

/-- one round of the loop on input that is not exhausted: the identifier (which the loop reads itself, not through `byte`), then
the value and the loop again -/
theorem propLoop_cons {allowed : List Nat} {fuel id : Nat} {k : Kind} {m : Bool} {acc : Props} {b : Bs} {y : Props}
    (hal : allowed.contains id = true) (hk : kindOf id = some (k, m))
    (h : Decodes 0 (fun c pos lim => (value k c pos lim).bind fun v p => propLoop allowed c fuel p lim (acc ++ [⟨id, v⟩])) b y) :
    Decodes 0 (fun c pos lim => propLoop allowed c (fuel + 1) pos lim acc) (id :: b) y := by
  intro mem rl pos lim r hat h1 h2
  simp only [List.length_cons] at h1 h2
  have := h mem rl (pos + 1) lim r hat.2 (by omega) (by omega)
  show propLoop allowed ⟨mem, rl⟩ (fuel + 1) pos lim acc = _
  rw [propLoop, if_neg (by omega), if_neg (show ¬ pos ≥ rl by omega)]
  simp only [getD_of_At mem pos id _ hat, hal, Bool.not_true, Bool.false_eq_true, if_false, hk]
  rw [List.length_cons, ← Nat.add_assoc, Nat.add_right_comm]
  -- the loop's `match` on the value is `Res.bind` written out, but another matcher: the two meet only on a constructor
  cases hval : value k ⟨mem, rl⟩ (pos + 1) lim
  all_goals
    simp only [hval] at this
    exact this

/-- the loop with the end of the property bytes as its scope reads them all; `lim` is that scope -/
theorem propLoop_ok {allowed : List Nat} : ∀ (ps : Props), (∀ p ∈ ps, WFPropD allowed p) → ∀ (fuel : Nat) (acc : Props), ps.length < fuel →
    Decodes 0 (fun c pos lim => propLoop allowed c fuel pos lim acc) (propsBody ps) (acc ++ ps)
  | [], _, fuel + 1, acc, _ => fun mem rl pos lim r _ h1 _ => by
    show propLoop allowed ⟨mem, rl⟩ (fuel + 1) pos lim acc = _
    rw [propLoop, if_pos (show pos ≥ lim from Nat.le_of_eq h1.symm), List.append_nil]
    rfl
  | p :: ps, hw, fuel + 1, acc, hf => by
    obtain ⟨hid, hal, ⟨m, hk⟩, hv⟩ := hw p List.mem_cons_self
    have ih := propLoop_ok ps (fun q hq => hw q (List.mem_cons_of_mem _ hq)) fuel (acc ++ [⟨p.id, p.val⟩]) (Nat.lt_of_succ_lt_succ hf)
    rw [propsBody, propEncode, Nat.mod_eq_of_lt hid, List.cons_append]
    exact (propLoop_cons hal hk (Decodes.bind (value_ok hv) ih)).cast (List.append_cons acc p ps).symm

/-- nothing left to read: no properties -/
theorem props_none (allowed : List Nat) : Decodes 0 (props allowed) [] [] := by
  intro mem rl pos lim r _ h1 _
  rw [props, if_pos (show pos ≥ lim from Nat.le_of_eq h1.symm)]
  rfl

/-- **property block**: in any order, with repeated user properties / subscription identifiers, the decoder yields what the
property container holds after assigning the properties in wire order -/
theorem props_ok {allowed : List Nat} {ps : Props} (hw : ∀ p ∈ ps, WFPropD allowed p) (hsz : propsBodySize ps ≤ 268435455) (e : Nat) :
    Decodes e (props allowed) (propsEncode false ps) (canon allowed ps) := by
  rw [propsEncode, Bool.false_and, if_neg Bool.false_ne_true]
  refine Decodes.guard (List.append_ne_nil_of_left_ne_nil (Reads.ne_nil (pVarint_roundtrip hsz) rfl) _) (Decodes.bind (varint_ok hsz) ?_)
  -- behind the Property Length: it fits before `lim`, and as the loop's scope it ends where the property bytes end
  intro mem rl pos lim r h h1 h2
  rw [propsBody_length] at h1 h2 ⊢
  have hloop := propLoop_ok ps hw (propsBodySize ps + 1) [] (Nat.lt_succ_of_le (length_le_bodySize ps)) mem rl pos
    (pos + propsBodySize ps) r h (by rw [propsBody_length]; rfl) (by rw [propsBody_length]; exact h2)
  rw [propsBody_length] at hloop
  simp only [if_neg (show ¬ propsBodySize ps > lim - pos by omega), hloop, Res.bind, List.nil_append]

end Mqtt5V.Proofs.DecRoundtrip
