import Mqtt5V.Model.Replies
/-! Lemmas about the replies model: what `find?` by key returns, where waiters, stored replies and `ok` completions
come from in one step, and uniqueness of keys. -/
namespace Mqtt5V.Proofs.Replies
open Mqtt5V.Model.Replies

def key (h : Waiter) : Nat × Nat := (h.code, h.pid)

/-- no two waiters share a (control code, packet id) key; waiter identities are distinct -/
def KeysUnique (r : R) : Prop := (r.handlers.map key).Nodup

theorem find_sameKey {hs : List Waiter} {c p : Nat} {h : Waiter} (hf : hs.find? (sameKey c p) = some h) :
    h ∈ hs ∧ h.code = c ∧ h.pid = p := by
  have h2 := List.find?_some hf
  simp only [sameKey, Bool.and_eq_true, beq_iff_eq] at h2
  exact ⟨List.mem_of_find?_eq_some hf, h2.1, h2.2⟩

theorem dispatch_completes_only_matching_waiter (r : R) (c p t : Nat) :
    (step r (.dispatch c p t)).2 = [] ∨
    ∃ h ∈ r.handlers, h.code = c ∧ h.pid = p ∧ (step r (.dispatch c p t)).2 = [⟨h.w, .ok, t⟩] := by
  simp only [step]
  cases hf : r.handlers.find? (sameKey c p) with
  | none => exact Or.inl rfl
  | some h =>
    obtain ⟨hm, hc, hp⟩ := find_sameKey hf
    exact Or.inr ⟨h, hm, hc, hp, rfl⟩

theorem mem_handlers_step {r : R} {i : In} {x : Waiter} (h : x ∈ (step r i).1.handlers) :
    x ∈ r.handlers ∨ i = .wait x.w x.code x.pid := by
  cases i with
  | wait w c p =>
    -- the waiters kept are old ones, whether or not one was replaced
    have kept : ∀ x ∈ (match r.handlers.find? (sameKey c p) with | some d => r.handlers.erase d | none => r.handlers),
        x ∈ r.handlers := by
      split
      · exact fun x hx => List.mem_of_mem_erase hx
      · exact fun x hx => hx
    simp only [step] at h
    split at h
    · exact .inl (kept x h)
    · rcases List.mem_append.mp h with h | h
      · exact .inl (kept x h)
      · obtain rfl := List.mem_singleton.mp h
        exact .inr rfl
  | dispatch c p t =>
    simp only [step] at h
    split at h
    · exact .inl (List.mem_of_mem_erase h)
    · exact .inl h
  | resendUnanswered => cases h
  | cancelUnanswered => cases h
  | clearFast => exact .inl h
  | clearPubrels => exact .inl (List.mem_filter.mp h).1

theorem mem_fast_step {r : R} {i : In} {f : Fast} (h : f ∈ (step r i).1.fast) :
    f ∈ r.fast ∨ i = .dispatch f.code f.pid f.tag := by
  cases i with
  | wait w c p =>
    simp only [step] at h
    split at h
    · exact .inl (List.mem_of_mem_erase h)
    · exact .inl h
  | dispatch c p t =>
    simp only [step] at h
    split at h
    · exact .inl h
    · rcases List.mem_append.mp h with h | h
      · exact .inl h
      · obtain rfl := List.mem_singleton.mp h
        exact .inr rfl
  | clearFast => cases h
  | _ => exact .inl h

theorem ok_of_step {r : R} {i : In} {e : Ev} (he : e ∈ (step r i).2) (hok : e.rc = .ok) :
    (∃ f ∈ r.fast, i = .wait e.w f.code f.pid ∧ f.tag = e.tag) ∨ (∃ h ∈ r.handlers, i = .dispatch h.code h.pid e.tag ∧ h.w = e.w) := by
  cases i with
  | wait w c p =>
    simp only [step] at he
    -- the completion of a replaced waiter is not `ok`
    have hdup : e ∉ (match r.handlers.find? (sameKey c p) with | some d => [(⟨d.w, .aborted, 0⟩ : Ev)] | none => []) := by
      intro hm
      split at hm
      · obtain rfl := List.mem_singleton.mp hm
        cases hok
      · cases hm
    split at he
    · rename_i f hf
      have hk := List.find?_some hf
      simp only [Bool.and_eq_true, beq_iff_eq] at hk
      rcases List.mem_append.mp he with he | he
      · exact absurd he hdup
      · obtain rfl := List.mem_singleton.mp he
        exact .inl ⟨f, List.mem_of_find?_eq_some hf, by rw [hk.1, hk.2], rfl⟩
    · exact absurd he hdup
  | dispatch c p t =>
    rcases dispatch_completes_only_matching_waiter r c p t with h0 | ⟨h, hm, rfl, rfl, hev⟩
    · rw [h0] at he
      cases he
    · rw [hev] at he
      obtain rfl := List.mem_singleton.mp he
      exact .inr ⟨h, hm, rfl, rfl⟩
  | clearFast => cases he
  | _ =>
    -- every other completion hands over `try_again` or `operation_aborted`
    simp only [step, List.mem_map] at he
    obtain ⟨_, _, rfl⟩ := he
    cases hok

theorem not_mem_keys_of_find_none {hs : List Waiter} {c p : Nat} (hf : hs.find? (sameKey c p) = none) :
    (c, p) ∉ hs.map key := by
  intro hm
  obtain ⟨h, hh, hk⟩ := List.mem_map.mp hm
  have := List.find?_eq_none.mp hf h hh
  simp only [key, Prod.mk.injEq] at hk
  simp [sameKey, hk.1, hk.2] at this

theorem erase_removes_key {hs : List Waiter} (hn : (hs.map key).Nodup) {d : Waiter} (hd : d ∈ hs) :
    key d ∉ (hs.erase d).map key :=
  (List.nodup_cons.mp (((List.perm_cons_erase hd).map key).nodup_iff.mp hn)).1

theorem step_keys (r : R) (i : In) (h : KeysUnique r) : KeysUnique (step r i).1 := by
  unfold KeysUnique at *
  cases i with
  | wait w code pid =>
    -- the waiters kept have unique keys and none of them has the new key
    have kept : ((match r.handlers.find? (sameKey code pid) with | some d => r.handlers.erase d | none => r.handlers).map key).Nodup ∧
        (code, pid) ∉ (match r.handlers.find? (sameKey code pid) with | some d => r.handlers.erase d | none => r.handlers).map key := by
      split
      · rename_i d hd
        obtain ⟨hm, rfl, rfl⟩ := find_sameKey hd
        exact ⟨(List.Sublist.map key List.erase_sublist).nodup h, erase_removes_key h hm⟩
      · rename_i hd
        exact ⟨h, not_mem_keys_of_find_none hd⟩
    simp only [step]
    split
    · exact kept.1
    · rw [List.map_append]
      refine List.nodup_append.mpr ⟨kept.1, by simp, ?_⟩
      intro a ha b hb hab
      obtain rfl := List.mem_singleton.mp hb
      subst hab
      exact kept.2 ha
  | dispatch code pid tag =>
    simp only [step]
    split
    · exact (List.Sublist.map key List.erase_sublist).nodup h
    · exact h
  | resendUnanswered => exact List.nodup_nil
  | cancelUnanswered => exact List.nodup_nil
  | clearFast => exact h
  | clearPubrels => exact (List.Sublist.map key List.filter_sublist).nodup h

end Mqtt5V.Proofs.Replies
