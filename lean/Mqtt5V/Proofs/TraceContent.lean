import Mqtt5V.Model.TraceContent
import Mqtt5V.Proofs.Lts
/-! The content model (`Model/TraceContent.lean`): a request packet says what the API call of its operation said (C01 / C17). -/
namespace Mqtt5V.Proofs.TraceContent
open Mqtt5V.Model.TraceContent

theorem isRun : Lts.IsRun step run := ⟨fun _ => rfl, fun _ _ _ => rfl⟩

/-- the state remembers exactly what the API calls so far said (so no operation has said two things) -/
def Inv (hist : List Ev) (s : S) : Prop := ∀ op c, s.said op = some c ↔ Ev.init op c ∈ hist

theorem inv_step (hist : List Ev) (s : S) (e : Ev) (s' : S) (I : Inv hist s) (h : step s e = some s') : Inv (hist ++ [e]) s' := by
  intro op' c'
  cases e with
  | init op c =>
    simp only [step, Option.ite_none_left_eq_some, Option.some.injEq] at h
    obtain ⟨hn, rfl⟩ := h
    have hn : ∀ c, Ev.init op c ∉ hist := fun c hm => by simp [(I op c).2 hm] at hn
    by_cases hop : op' = op
    · subst hop; simp [hn, eq_comm]
    · simp [hop, I op' c']
  | req op c =>
    simp only [step, Option.ite_none_right_eq_some, Option.some.injEq] at h
    obtain ⟨_, rfl⟩ := h
    simp [I op' c']

/-- C01 / C17, content of requests; in the client's terms at `Props.C01.composed_request_says_what_was_asked` (the same in `Props.C17`) -/
theorem request_says_what_was_asked {pre post : List Ev} {op c : Nat} (hacc : accepts (pre ++ .req op c :: post) = true) :
    Ev.init op c ∈ pre := by
  obtain ⟨s1, s2, hr, hs⟩ := isRun.isSome_mid hacc
  have I := isRun.reach Inv (by intro op c; simp [init]) inv_step hr
  simp only [step, Option.ite_none_right_eq_some] at hs
  exact (I op c).1 hs.1

end Mqtt5V.Proofs.TraceContent
