import Mqtt5V.Model.Trace
import Mqtt5V.Proofs.Lts
/-! The composed outbound model (`Model/Trace.lean`): what an accepted step does (`Step`), who owns which identifier (`OwnerStep`,
`IdInv`), and C05 (at most once) / C08 for every event list the model accepts. -/
namespace Mqtt5V.Proofs.Trace
open Mqtt5V.Model.Trace

theorem isRun : Lts.IsRun step run := ⟨fun _ => rfl, fun _ _ _ => rfl⟩

theorem request_spec {s s' : S} {op pid : Nat} {k : Kind} {dup : Bool} {body : Nat}
    (h : request s op pid k dup body = some s') :
    pid ≠ 0 ∧ s.isDone op = false ∧ ∃ n, s.known op = some (k, n) ∧
    ((s.slot pid = none ∧ s.pidOf op = none ∧ dup = false ∧
        s' = { s with slot := upd s.slot pid (some { op := op, kind := k, n := n, phase := .writing, body := body }),
                      pidOf := upd s.pidOf op (some pid), bodyOf := upd s.bodyOf op (some body) }) ∨
     (∃ sl, s.slot pid = some sl ∧ sl.op = op ∧ s.bodyOf op = some body ∧ (sl.okBefore = true → dup = true) ∧
        sl.phase = .idle ∧
        s' = { s with slot := upd s.slot pid (some { sl with phase := .writing, fast := none }) })) := by
  unfold request at h
  simp only [Option.ite_none_left_eq_some, Bool.or_eq_true, decide_eq_true_eq, not_or, Bool.not_eq_true] at h
  obtain ⟨⟨hp0, hnd⟩, h⟩ := h
  split at h
  · cases h
  · rename_i k' n hk
    simp only [Option.ite_none_left_eq_some, ne_eq, Decidable.not_not] at h
    obtain ⟨rfl, h⟩ := h
    refine ⟨hp0, hnd, n, hk, ?_⟩
    split at h
    · rename_i hs
      simp only [Option.ite_none_left_eq_some, not_or, Decidable.not_not, Bool.not_eq_true, Option.some.injEq] at h
      obtain ⟨⟨hnew, hdup⟩, rfl⟩ := h
      exact Or.inl ⟨hs, hnew, hdup, rfl⟩
    · rename_i sl hs
      simp only [Option.ite_none_left_eq_some, not_or, Decidable.not_not, Bool.and_eq_true, Bool.not_eq_true', not_and,
        Bool.not_eq_false] at h
      obtain ⟨⟨⟨hop, hb⟩, hdup⟩, h⟩ := h
      split at h
      · rename_i hph; cases h; exact Or.inr ⟨sl, hs, hop, hb, hdup, hph, rfl⟩
      · cases h

/-- `account` on a packet entering a write, as a relation.  `skip`: nothing is counted — the packet is no QoS 1/2 PUBLISH, or no connection is up -/
inductive Accounted (s : S) : Out → S → Prop
  | skip (pk : Out) (h : ∀ o q i d b, pk = .publish o q i d b → s.connected = false) : Accounted s pk s
  | held (o q i : Nat) (d : Bool) (b : Nat) (hc : s.connected = true) (hl : s.lastPub < o) (hm : i ∈ s.holders) :
      Accounted s (.publish o q i d b) { s with wire := addWire s.wire i, lastPub := o }
  | take (o q i : Nat) (d : Bool) (b : Nat) (hc : s.connected = true) (hl : s.lastPub < o) (hm : i ∉ s.holders) (hq : s.quota ≠ 0) :
      Accounted s (.publish o q i d b) { s with wire := addWire s.wire i, holders := i :: s.holders, quota := s.quota - 1, lastPub := o }

theorem Accounted.of_account {s a : S} {o q i : Nat} {d : Bool} {b : Nat} (h : account s o i = some a) :
    Accounted s (.publish o q i d b) a := by
  unfold account at h
  split at h
  · rename_i hc; cases h; exact .skip _ (fun _ _ _ _ _ _ => by simpa using hc)
  · rename_i hc
    simp only [Bool.not_eq_true, Bool.not_eq_false'] at hc
    simp only [Option.ite_none_left_eq_some, Nat.not_le] at h
    obtain ⟨hl, h⟩ := h
    split at h
    · rename_i hm; cases h; exact .held o q i d b hc hl hm
    · rename_i hm
      simp only [Option.ite_none_left_eq_some, Option.some.injEq] at h
      obtain ⟨hq, rfl⟩ := h
      exact .take o q i d b hc hl hm hq

/-- accounting reads and writes the flow-control fields only -/
theorem Accounted.frame {s a : S} {pk : Out} {X : Nat → Option Slot} {Y Z : Nat → Option Nat}
    (h : Accounted { s with slot := X, pidOf := Y, bodyOf := Z } pk a) :
    ∃ a0, Accounted s pk a0 ∧
      a = { s with slot := X, pidOf := Y, bodyOf := Z, wire := a0.wire, holders := a0.holders, quota := a0.quota, lastPub := a0.lastPub } := by
  cases h with
  | skip _ h => exact ⟨s, .skip pk h, rfl⟩
  | held o q i d b hc hl hm => exact ⟨_, .held o q i d b hc hl hm, rfl⟩
  | take o q i d b hc hl hm hq => exact ⟨_, .take o q i d b hc hl hm hq, rfl⟩

/-- the guards of the first transmission of a request: it claims a free identifier -/
structure First (s : S) (pk : Out) (op pid body : Nat) (k : Kind) (n : Nat) : Prop where
  writing : s.writing = true
  req : pk.req = some (op, pid)
  reqBody : pk.reqBody = some (op, body)
  pid_ne : pid ≠ 0
  notDone : s.isDone op = false
  known : s.known op = some (k, n)
  free : s.slot pid = none
  new : s.pidOf op = none
  dup0 : ∀ o q i d b, pk = .publish o q i d b → d = false

/-- the guards of a retransmission: from the queued phase of the slot the operation owns, with the bytes of the first transmission -/
structure Resend (s : S) (pk : Out) (op pid body : Nat) (sl : Slot) : Prop where
  writing : s.writing = true
  req : pk.req = some (op, pid)
  reqBody : pk.reqBody = some (op, body)
  notDone : s.isDone op = false
  slot : s.slot pid = some sl
  own : sl.op = op
  sameBody : s.bodyOf op = some body
  idle : sl.phase = .idle
  dup1 : ∀ o q i d b, pk = .publish o q i d b → sl.okBefore = true → d = true

/-- the accepted transitions, one constructor each: the guards the step has passed and the state it leads to.  PUBLISH, SUBSCRIBE and
UNSUBSCRIBE are seen through `Out.req` / `Out.reqBody` only (as `usesPid`, `usesBody`, `isReq` see them), so they share `first` and `resend`;
there `a` is `s` after flow-control accounting, which touches no field the request does.  (Only this direction: `Step` forgets that the
packet type matches the kind of the operation and that QoS is 1 or 2, which no statement needs.) -/
inductive Step (s : S) : Ev → S → Prop
  | init (op : Nat) (k : Kind) (n : Nat) (hk : s.known op = none) :
      Step s (.init op k n) { s with known := upd s.known op (some (k, n)), ops := op :: s.ops }
  | connUp (rm : Option Nat) :
      Step s (.connUp rm) { s with connected := true, limit := rm.getD MAX_LIMIT, quota := rm.getD MAX_LIMIT, holders := [], wire := [],
                                   lastPub := 0, slot := fun p => (s.slot p).map Slot.onConnUp }
  | connDown : Step s .connDown { s with connected := false, holders := [], wire := [], quota := s.limit, lastPub := 0 }
  | wr (hw : s.writing = false) : Step s .wr { s with writing := true }
  | first (pk : Out) (op pid body : Nat) (k : Kind) (n : Nat) (a : S) (h : First s pk op pid body k n) (ha : Accounted s pk a) :
      Step s (.pk pk) { s with slot := upd s.slot pid (some { op := op, kind := k, n := n, phase := .writing, body := body }),
                               pidOf := upd s.pidOf op (some pid), bodyOf := upd s.bodyOf op (some body),
                               wire := a.wire, holders := a.holders, quota := a.quota, lastPub := a.lastPub }
  | resend (pk : Out) (op pid body : Nat) (sl : Slot) (a : S) (h : Resend s pk op pid body sl) (ha : Accounted s pk a) :
      Step s (.pk pk) { s with slot := upd s.slot pid (some { sl with phase := .writing, fast := none }),
                               wire := a.wire, holders := a.holders, quota := a.quota, lastPub := a.lastPub }
  | rel (pid : Nat) (sl : Slot) (hw : s.writing = true) (hs : s.slot pid = some sl) (hk : sl.kind = .pub2) (hph : sl.phase = .relIdle) :
      Step s (.pk (.pubrel pid)) { s with slot := upd s.slot pid (some { sl with phase := .relWriting, fast := none }) }
  | other (hw : s.writing = true) : Step s (.pk .other) s
  | wrOk (hw : s.writing = true) : Step s .wrOk { s with writing := false, slot := fun p => (s.slot p).map Slot.onWrOk }
  | wrFail (hw : s.writing = true) : Step s .wrFail { s with writing := false, slot := fun p => (s.slot p).map Slot.onWrFail }
  | rx (a : Ack) :
      Step s (.rx a) { s with wire := if a.final then s.wire.erase a.pid else s.wire,
                              holders := if releases s a then s.holders.erase a.pid else s.holders,
                              quota := if releases s a then s.quota + 1 else s.quota,
                              slot := upd s.slot a.pid ((s.slot a.pid).map (Slot.onRx · a)) }
  | doneOk (op : Nat) (rcs : List Nat) (props p : Nat) (sl : Slot) (hnd : s.isDone op = false) (hc : s.cancelled = false)
      (hp : s.pidOf op = some p) (hs : s.slot p = some sl) (hop : sl.op = op) (hph : sl.phase = .finished rcs props) :
      Step s (.doneOk op rcs props) { s with slot := upd s.slot p none, isDone := upd s.isDone op true }
  -- any other completion: frees the slot if the operation still owns one
  | doneFree (op p : Nat) (sl : Slot) (hnd : s.isDone op = false) (hk : s.known op ≠ none)
      (hp : s.pidOf op = some p) (hs : s.slot p = some sl) (hop : sl.op = op) :
      Step s (.doneOther op) { s with isDone := upd s.isDone op true, slot := upd s.slot p none }
  | doneKeep (op : Nat) (hnd : s.isDone op = false) (hk : s.known op ≠ none)
      (hown : ∀ p sl, s.pidOf op = some p → s.slot p = some sl → sl.op ≠ op) :
      Step s (.doneOther op) { s with isDone := upd s.isDone op true }
  | quiescent (hall : ∀ op ∈ s.ops, s.isDone op = true) : Step s .quiescent s
  | cancelAll : Step s .cancelAll { s with cancelled := true }
  | restart : Step s .restart { s with cancelled := false }

theorem request_step {s s1 s' : S} {pk : Out} {op pid body : Nat} {k : Kind} {dup : Bool} (hw : s.writing = true)
    (hr : pk.req = some (op, pid)) (hb : pk.reqBody = some (op, body)) (hd : ∀ o q i d b, pk = .publish o q i d b → d = dup)
    (h : request s op pid k dup body = some s1) (ha : Accounted s1 pk s') : Step s (.pk pk) s' := by
  obtain ⟨hp0, hnd, n, hk, ⟨hfree, hnew, rfl, rfl⟩ | ⟨sl, hs, hop, hbody, hdup, hph, rfl⟩⟩ := request_spec h
  · obtain ⟨a, ha0, rfl⟩ := ha.frame
    exact .first pk op pid body k n a ⟨hw, hr, hb, hp0, hnd, hk, hfree, hnew, hd⟩ ha0
  · obtain ⟨a, ha0, rfl⟩ := ha.frame
    exact .resend pk op pid body sl a ⟨hw, hr, hb, hnd, hs, hop, hbody, hph, fun o q i d b e ho => (hd o q i d b e).trans (hdup ho)⟩ ha0

theorem Step.of_step {s s' : S} {e : Ev} (h : step s e = some s') : Step s e s' := by
  cases e with
  | init op k n =>
    simp only [step, Option.ite_none_left_eq_some, Option.some.injEq] at h
    obtain ⟨hn, rfl⟩ := h
    exact .init op k n (by simpa using hn)
  | connUp rm => cases h; exact .connUp rm
  | connDown => cases h; exact .connDown
  | wr =>
    simp only [step, Option.ite_none_left_eq_some, Option.some.injEq] at h
    obtain ⟨hw, rfl⟩ := h
    exact .wr (by simpa using hw)
  | pk p =>
    simp only [step, Option.ite_none_right_eq_some] at h
    obtain ⟨hw, h⟩ := h
    cases p with
    | publish op q pid dup body =>
      have ⟨k, h⟩ : ∃ k, (request s op pid k dup body).bind (account · op pid) = some s' := by
        simp only [stepPk] at h
        split at h
        · exact ⟨_, h⟩
        · split at h
          · exact ⟨_, h⟩
          · cases h
      obtain ⟨s1, hr, ha⟩ := Option.bind_eq_some_iff.1 h
      exact request_step hw rfl rfl (fun _ _ _ _ _ e => by cases e; rfl) hr (.of_account ha)
    | subscribe op pid body => exact request_step hw rfl rfl (fun _ _ _ _ _ e => by cases e) h (.skip _ (fun _ _ _ _ _ e => by cases e))
    | unsubscribe op pid body => exact request_step hw rfl rfl (fun _ _ _ _ _ e => by cases e) h (.skip _ (fun _ _ _ _ _ e => by cases e))
    | pubrel pid =>
      simp only [stepPk] at h
      split at h
      · rename_i sl hs
        simp only [Option.ite_none_left_eq_some, ne_eq, Decidable.not_not] at h
        obtain ⟨hk, h⟩ := h
        split at h
        · rename_i hph; cases h; exact .rel pid sl hw hs hk hph
        · cases h
      · cases h
    | other => cases h; exact .other hw
  | wrOk =>
    simp only [step, Option.ite_none_right_eq_some, Option.some.injEq] at h
    obtain ⟨hw, rfl⟩ := h
    exact .wrOk hw
  | wrFail =>
    simp only [step, Option.ite_none_right_eq_some, Option.some.injEq] at h
    obtain ⟨hw, rfl⟩ := h
    exact .wrFail hw
  | rx a => cases h; exact .rx a
  | doneOk op rcs props =>
    simp only [step, Option.ite_none_left_eq_some, Bool.or_eq_true, not_or, Bool.not_eq_true] at h
    obtain ⟨⟨hnd, hc⟩, h⟩ := h
    split at h
    · cases h
    · rename_i p hp
      split at h
      · cases h
      · rename_i sl hs
        simp only [Option.ite_none_left_eq_some, ne_eq, decide_eq_true_eq, not_or, Decidable.not_not, Option.some.injEq] at h
        obtain ⟨⟨hop, hph⟩, rfl⟩ := h
        exact .doneOk op rcs props p sl hnd hc hp hs hop hph
  | doneOther op =>
    simp only [step, Option.ite_none_left_eq_some, Bool.or_eq_true, not_or, Bool.not_eq_true, Option.isNone_iff_eq_none] at h
    obtain ⟨⟨hnd, hk⟩, h⟩ := h
    split at h
    · rename_i hp; cases h; exact .doneKeep op hnd hk (by intro p sl h1; rw [hp] at h1; cases h1)
    · rename_i p hp
      split at h
      · rename_i sl hs
        split at h
        · rename_i hop; cases h; exact .doneFree op p sl hnd hk hp hs hop
        · rename_i hop; cases h
          exact .doneKeep op hnd hk (by intro p' sl' h1 h2; rw [hp] at h1; cases h1; rw [hs] at h2; cases h2; exact hop)
      · rename_i hs; cases h
        exact .doneKeep op hnd hk (by intro p' sl' h1 h2; rw [hp] at h1; cases h1; rw [hs] at h2; cases h2)
  | quiescent =>
    simp only [step, Option.ite_none_right_eq_some, Option.some.injEq, List.all_eq_true] at h
    obtain ⟨hall, rfl⟩ := h
    exact .quiescent hall
  | cancelAll => cases h; exact .cancelAll
  | restart => cases h; exact .restart

/-- the slot is still the same exchange: operation, kind and number of topics are kept, and `okBefore` is never taken back -/
structure SameEx (sl sl' : Slot) : Prop where
  op : sl'.op = sl.op
  kind : sl'.kind = sl.kind
  n : sl'.n = sl.n
  okb : sl.okBefore = true → sl'.okBefore = true

theorem SameEx.trans {a b c : Slot} (h1 : SameEx a b) (h2 : SameEx b c) : SameEx a c :=
  ⟨h2.op.trans h1.op, h2.kind.trans h1.kind, h2.n.trans h1.n, fun h => h2.okb (h1.okb h)⟩

theorem consume_same (sl : Slot) (a : Ack) : SameEx sl (consume sl a) := by
  unfold consume; repeat' split
  all_goals exact ⟨rfl, rfl, rfl, id⟩

theorem SameEx.consume {sl sl1 : Slot} (h : SameEx sl sl1) (a : Ack) : SameEx sl (consume sl1 a) := h.trans (consume_same _ _)

theorem onWrOk_same (sl : Slot) : SameEx sl sl.onWrOk := by
  unfold Slot.onWrOk; repeat' split
  · refine .consume ?_ _; exact ⟨rfl, rfl, rfl, fun _ => rfl⟩
  · exact ⟨rfl, rfl, rfl, fun _ => rfl⟩
  · refine .consume ?_ _; exact ⟨rfl, rfl, rfl, id⟩
  · exact ⟨rfl, rfl, rfl, id⟩
  · exact ⟨rfl, rfl, rfl, id⟩

theorem onWrFail_same (sl : Slot) : SameEx sl sl.onWrFail := by
  unfold Slot.onWrFail; repeat' split
  all_goals exact ⟨rfl, rfl, rfl, id⟩

theorem onConnUp_same (sl : Slot) : SameEx sl sl.onConnUp := by
  unfold Slot.onConnUp; repeat' split
  all_goals exact ⟨rfl, rfl, rfl, id⟩

theorem onRx_same (sl : Slot) (a : Ack) : SameEx sl (sl.onRx a) := by
  unfold Slot.onRx; repeat' split
  · exact consume_same _ _
  · exact consume_same _ _
  all_goals exact ⟨rfl, rfl, rfl, id⟩

@[simp] theorem upd_same {α : Type} (f : Nat → α) (k : Nat) (v : α) : upd f k v k = v := by simp [upd]

@[simp] theorem upd_ne {α : Type} (f : Nat → α) {k i : Nat} (v : α) (h : i ≠ k) : upd f k v i = f i := by simp [upd, h]

def owner (s : S) (p : Nat) : Option Nat := (s.slot p).map (·.op)

/-- what a step does to the ownership of identifiers: all that `IdInv` needs to know of it.  `same.hreq`: a request packet that claims
nothing is a retransmission by the owner.  `done.ho`: a completion frees the identifier only if the operation still owns it (the slot
may belong to a later operation by then) -/
inductive OwnerStep (s s' : S) (e : Ev) : Prop
  | same (hp : s'.pidOf = s.pidOf) (hd : s'.isDone = s.isDone) (ho : ∀ q, owner s' q = owner s q)
      (hne : ∀ op, ¬ isDoneEv op e)
      (hreq : ∀ pk op p, e = .pk pk → pk.req = some (op, p) → owner s p = some op)
  | claim (op p : Nat) (pk : Out) (he : e = .pk pk) (hr : pk.req = some (op, p)) (hp0 : p ≠ 0) (hnd : s.isDone op = false)
      (hfree : s.slot p = none) (hnew : s.pidOf op = none)
      (hp : s'.pidOf = upd s.pidOf op (some p)) (hd : s'.isDone = s.isDone)
      (ho : ∀ q, owner s' q = if q = p then some op else owner s q)
  | done (op : Nat) (he : isDoneEv op e) (huniq : ∀ op', isDoneEv op' e → op' = op) (hnk : ∀ pk, e ≠ .pk pk) (hnd : s.isDone op = false)
      (hp : s'.pidOf = s.pidOf) (hd : s'.isDone = upd s.isDone op true)
      (ho : ∀ q, owner s' q = if owner s q = some op ∧ s.pidOf op = some q then none else owner s q)

theorem owner_map {f : Slot → Slot} (hf : ∀ sl, SameEx sl (f sl)) (o : Option Slot) : (o.map f).map (·.op) = o.map (·.op) := by
  cases o <;> simp [(hf _).op]

theorem owner_upd (s : S) (p : Nat) (o : Option Slot) (q : Nat) :
    (upd s.slot p o q).map (·.op) = if q = p then o.map (·.op) else owner s q := by
  unfold upd owner; split <;> rfl

theorem owner_upd_keep {s : S} {p : Nat} {o : Option Slot} (h : o.map (·.op) = owner s p) (q : Nat) :
    (upd s.slot p o q).map (·.op) = owner s q := by
  rw [owner_upd]; split
  · rename_i hq; rw [hq, h]
  · rfl

theorem owner_free {s : S} {op p : Nat} {sl : Slot} (hp : s.pidOf op = some p) (hs : s.slot p = some sl) (hop : sl.op = op) (q : Nat) :
    (upd s.slot p none q).map (·.op) = if owner s q = some op ∧ s.pidOf op = some q then none else owner s q := by
  rw [owner_upd]
  by_cases hq : q = p
  · subst hq; simp [owner, hs, hop, hp]
  · have hne : ¬ (p = q) := fun h => hq h.symm
    simp [hq, hp, hne]

/-- `.same` at an event that is not a request packet -/
theorem OwnerStep.keep {s s' : S} {e : Ev} (hp : s'.pidOf = s.pidOf) (hd : s'.isDone = s.isDone) (ho : ∀ q, owner s' q = owner s q)
    (hne : ∀ op, ¬ isDoneEv op e) (hnk : ∀ pk, e = .pk pk → pk.req = none) : OwnerStep s s' e :=
  .same hp hd ho hne (by intro pk op p he hr; rw [hnk pk he] at hr; cases hr)

theorem step_owner {s s' : S} {e : Ev} (h : step s e = some s') : OwnerStep s s' e := by
  cases Step.of_step h with
  | connUp rm => exact .keep rfl rfl (fun q => owner_map onConnUp_same _) (fun _ h => h) (by intro pk he; cases he)
  | wrOk hw => exact .keep rfl rfl (fun q => owner_map onWrOk_same _) (fun _ h => h) (by intro pk he; cases he)
  | wrFail hw => exact .keep rfl rfl (fun q => owner_map onWrFail_same _) (fun _ h => h) (by intro pk he; cases he)
  | rx a => exact .keep rfl rfl (owner_upd_keep (owner_map (onRx_same · a) _)) (fun _ h => h) (by intro pk he; cases he)
  | first pk op pid body k n a g =>
    exact .claim op pid pk rfl g.req g.pid_ne g.notDone g.free g.new rfl rfl (owner_upd s _ _)
  | resend pk op pid body sl a g =>
    refine .same rfl rfl (owner_upd_keep (by simp [owner, g.slot])) (fun _ h => h) ?_
    intro pk' op' p' he hr'
    cases he; rw [g.req] at hr'; cases hr'
    simp [owner, g.slot, g.own]
  | rel pid sl hw hs hk hph =>
    exact .keep rfl rfl (owner_upd_keep (by simp [owner, hs])) (fun _ h => h) (by intro pk he; cases he; rfl)
  | doneOk op rcs props p sl hnd hc hp hs hop hph =>
    exact .done op rfl (fun _ h => h.symm) (by intro pk he; cases he) hnd rfl rfl (owner_free hp hs hop)
  | doneFree op p sl hnd hk hp hs hop =>
    exact .done op rfl (fun _ h => h.symm) (by intro pk he; cases he) hnd rfl rfl (owner_free hp hs hop)
  | doneKeep op hnd hk hown =>
    refine .done op rfl (fun _ h => h.symm) (by intro pk he; cases he) hnd rfl rfl (fun q => ?_)
    split
    · rename_i hq
      obtain ⟨sl, hs, hop⟩ : ∃ sl, s.slot q = some sl ∧ sl.op = op := by simpa [owner] using hq.1
      exact absurd hop (hown q sl hq.2 hs)
    · rfl
  | _ => exact .keep rfl rfl (fun _ => rfl) (fun _ h => h) (by intro pk he; cases he <;> rfl)

theorem isDone_mono {s s' : S} {e : Ev} (h : step s e = some s') {op : Nat} (hd : s.isDone op = true) : s'.isDone op = true := by
  cases step_owner h with
  | same _ hd' => rw [hd']; exact hd
  | claim _ _ _ _ _ _ _ _ _ _ hd' => rw [hd']; exact hd
  | done op' _ _ _ _ _ hd' => rw [hd']; unfold upd; split <;> simp [hd]

@[simp] theorem doneIn_snoc (hist : List Ev) (e : Ev) (op : Nat) : doneIn (hist ++ [e]) op ↔ doneIn hist op ∨ isDoneEv op e := by
  simp [doneIn, or_and_right, exists_or]

@[simp] theorem usesPid_snoc (hist : List Ev) (e : Ev) (op p : Nat) :
    usesPid (hist ++ [e]) op p ↔ usesPid hist op p ∨ ∃ pk, e = .pk pk ∧ pk.req = some (op, p) := by
  simp [usesPid, or_and_right, exists_or, eq_comm]

@[simp] theorem usesBody_snoc (hist : List Ev) (e : Ev) (op b : Nat) :
    usesBody (hist ++ [e]) op b ↔ usesBody hist op b ∨ ∃ pk, e = .pk pk ∧ pk.reqBody = some (op, b) := by
  simp [usesBody, or_and_right, exists_or, eq_comm]

/-- the identity bookkeeping against the history: on the operations that have not completed, the slot table is exactly `pidOf` (`own_iff`);
`isDone` and `pidOf` are what the history says (`done_iff`, `uses_pid`) -/
structure IdInv (hist : List Ev) (s : S) : Prop where
  done_iff : ∀ op, s.isDone op = true ↔ doneIn hist op
  own_iff : ∀ p op, owner s p = some op ↔ s.pidOf op = some p ∧ s.isDone op = false
  pid_ne : ∀ op, s.pidOf op ≠ some 0
  uses_pid : ∀ op p, usesPid hist op p ↔ s.pidOf op = some p

theorem IdInv.pid_of_slot {hist : List Ev} {s : S} (I : IdInv hist s) {p op : Nat} {sl : Slot} (hs : s.slot p = some sl) (hop : sl.op = op) :
    s.pidOf op = some p :=
  ((I.own_iff p op).1 (by simp [owner, hs, hop])).1

theorem idInv_step (hist : List Ev) (s : S) (e : Ev) (s' : S) (I : IdInv hist s) (h : step s e = some s') : IdInv (hist ++ [e]) s' := by
  cases step_owner h with
  | same hp hd hoo hne hreq =>
    refine ⟨fun op => ?_, fun p op => ?_, hp ▸ I.pid_ne, fun op p => ?_⟩
    · simp [hd, I.done_iff, hne op]
    · rw [hoo, hp, hd]; exact I.own_iff p op
    · rw [usesPid_snoc, hp, I.uses_pid]
      exact ⟨fun h => h.elim id fun ⟨pk, he, hr⟩ => ((I.own_iff p op).1 (hreq pk op p he hr)).1, Or.inl⟩
  | claim op p pk he hr hp0 hnd hfree hnew hp hd hoo =>
    subst he
    -- `p` is nobody's and `op` owns nothing yet: the new entry is the only change on both sides of `own_iff`
    have hfree' : ∀ op', ¬ (s.pidOf op' = some p ∧ s.isDone op' = false) := fun op' h1 => by
      simpa [owner, hfree] using (I.own_iff p op').2 h1
    have hnew' : ∀ q, owner s q ≠ some op := fun q h1 => by simpa [hnew] using ((I.own_iff q op).1 h1).1
    refine ⟨fun op' => ?_, fun q op' => ?_, fun op' => ?_, fun op' q => ?_⟩
    · simp [hd, I.done_iff, isDoneEv]
    · rw [hoo, hp, hd]
      by_cases hq : q = p <;> by_cases hop : op' = op
      · simp [hq, hop, hnd]
      · simp [hq, hop, hfree' op', Ne.symm hop]
      · simp [hq, hop, hnew' q, Ne.symm hq]
      · simp [hq, hop, I.own_iff q op']
    · rw [hp]
      by_cases hop : op' = op
      · simpa [hop] using hp0
      · simpa [hop] using I.pid_ne op'
    · rw [usesPid_snoc, hp, I.uses_pid]
      by_cases hop : op' = op
      · simp [hop, hr, hnew]
      · simp [hop, hr, Ne.symm hop]
  | done op he huniq hnk hnd hp hd hoo =>
    refine ⟨fun op' => ?_, fun q op' => ?_, hp ▸ I.pid_ne, fun op' q => ?_⟩
    · rw [doneIn_snoc, hd, ← I.done_iff]
      by_cases hop : op' = op
      · simp [hop, he]
      · simpa [hop] using fun h1 => absurd (huniq op' h1) hop
    · rw [hoo, hp, hd]
      -- the completed operation owns nothing any more (what it owned it gave up just now); the others keep what they have
      by_cases hop : op' = op
      · simpa [hop] using fun h1 h2 => h1 h2 ((I.own_iff q op).1 h2).1
      · rw [upd_ne _ _ hop, ← I.own_iff]; split
        · rename_i hc; simp [hc.1, Ne.symm hop]
        · rfl
    · rw [usesPid_snoc, hp, I.uses_pid]
      exact ⟨fun h => h.elim id fun ⟨pk, he', _⟩ => absurd he' (hnk pk), Or.inl⟩

theorem idInv_reach {tr : List Ev} {s : S} (h : run init tr = some s) : IdInv tr s :=
  isRun.reach IdInv ⟨by simp [init, doneIn], by simp [owner, init], by simp [init], by simp [usesPid, init]⟩ idInv_step h

/-- `known` and `ops` against the `init` events of the history, each in the direction the theorems use -/
structure InitInv (hist : List Ev) (s : S) : Prop where
  known : ∀ op k n, s.known op = some (k, n) → Ev.init op k n ∈ hist
  ops : ∀ op k n, Ev.init op k n ∈ hist → op ∈ s.ops

theorem initInv_step (hist : List Ev) (s : S) (e : Ev) (s' : S) (I : InitInv hist s) (h : step s e = some s') : InitInv (hist ++ [e]) s' := by
  cases Step.of_step h with
  | init op k n hk =>
    refine ⟨fun op' k' n' h1 => ?_, fun op' k' n' h1 => ?_⟩
    · simp only [upd] at h1; split at h1
      · rename_i hop; cases h1; simp [hop]
      · exact List.mem_append_left _ (I.known op' k' n' h1)
    · rcases List.mem_append.1 h1 with h1 | h1
      · exact List.mem_cons_of_mem _ (I.ops op' k' n' h1)
      · cases List.mem_singleton.1 h1; exact List.mem_cons_self
  | _ =>
    refine ⟨fun op k n h1 => List.mem_append_left _ (I.known op k n h1), fun op k n h1 => I.ops op k n ?_⟩
    exact (List.mem_append.1 h1).resolve_right fun h2 => by cases List.mem_singleton.1 h2

theorem initInv_reach {tr : List Ev} {s : S} (h : run init tr = some s) : InitInv tr s :=
  isRun.reach InitInv ⟨by simp [init], by simp⟩ initInv_step h

/-- C05, at most once; in the client's terms at `Props.C05.composed_complete_at_most_once` -/
theorem complete_once {tr : List Ev} (hacc : accepts tr = true) {a b c : List Ev} {d1 d2 : Ev} {op : Nat}
    (hsplit : tr = a ++ d1 :: b ++ d2 :: c) (h1 : isDoneEv op d1) (h2 : isDoneEv op d2) : False := by
  subst hsplit
  obtain ⟨s1, s2, hr, hs⟩ := isRun.isSome_mid hacc
  have hd : s1.isDone op = true := ((idInv_reach hr).done_iff op).2 ⟨d1, by simp, h1⟩
  cases step_owner hs with
  | same _ _ _ hne _ => exact hne op h2
  | claim _ _ _ he => subst he; exact h2
  | done op' _ huniq _ hnd => rw [huniq op h2] at hd; rw [hd] at hnd; cases hnd

/-- C08, distinct identifiers; in the client's terms at `Props.C08.composed_outstanding_identifiers_distinct` -/
theorem pid_unique {tr pre post : List Ev} (hacc : accepts tr = true) (hsplit : tr = pre ++ post) {o1 o2 p : Nat}
    (u1 : usesPid pre o1 p) (u2 : usesPid pre o2 p) (n1 : ¬ doneIn pre o1) (n2 : ¬ doneIn pre o2) : o1 = o2 := by
  obtain ⟨s, hr⟩ := isRun.isSome_prefix hacc hsplit
  have I := idInv_reach hr
  have own : ∀ o, usesPid pre o p → ¬ doneIn pre o → owner s p = some o := fun o u n =>
    (I.own_iff p o).2 ⟨(I.uses_pid o p).1 u, by simpa [← I.done_iff] using n⟩
  simpa [own o1 u1 n1] using own o2 u2 n2

/-- C08 / C02 / C03, one identifier per operation, never 0; `Props.C08.composed_identifier_stable_nonzero` -/
theorem pid_stable {tr : List Ev} (hacc : accepts tr = true) {op p1 p2 : Nat} (u1 : usesPid tr op p1) (u2 : usesPid tr op p2) :
    p1 = p2 ∧ p1 ≠ 0 := by
  obtain ⟨s, hr⟩ := Option.isSome_iff_exists.1 hacc
  have I := idInv_reach hr
  have h1 := (I.uses_pid op p1).1 u1
  refine ⟨by simpa [h1] using (I.uses_pid op p2).1 u2, ?_⟩
  rintro rfl; exact I.pid_ne op h1

end Mqtt5V.Proofs.Trace
