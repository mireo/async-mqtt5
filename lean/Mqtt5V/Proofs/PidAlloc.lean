import Mqtt5V.Model.PidAlloc
/-! Invariant and set-refinement lemmas for the packet-id allocator model.  Under the invariant the twelve branches of `free p` collapse
(the list is ascending): it walks past the intervals that end below `p - 1` (`free_far`) and joins to the rest the interval that ends at
`p` — the fresh `p … p` (`free_below`), or the neighbour below grown by one (`free_adjacent`).  What `join` does is said once
(`join_spec`); `free_spec` is then one induction over the list. -/
namespace Mqtt5V.Proofs.PidAlloc
open Mqtt5V.Model.PidAlloc

/-- the abstraction: which ids does the interval list call free -/
def isFree (l : St) (p : Nat) : Prop := ∃ iv ∈ l, iv.stop < p ∧ p ≤ iv.start

@[simp] theorem isFree_nil (p : Nat) : isFree [] p ↔ False := by simp [isFree]
@[simp] theorem isFree_cons (a : Iv) (l : St) (p : Nat) :
    isFree (a :: l) p ↔ ((a.stop < p ∧ p ≤ a.start) ∨ isFree l p) := by simp [isFree]

/-- ascending, non-empty, non-adjacent, bounded intervals -/
def AInv (l : St) : Prop :=
  l.Pairwise (fun a b => a.start < b.stop) ∧ ∀ a ∈ l, a.stop < a.start ∧ a.start ≤ 65535

theorem ainv_nil : AInv [] := by simp [AInv]

theorem ainv_cons {a : Iv} {l : St} :
    AInv (a :: l) ↔ ((∀ b ∈ l, a.start < b.stop) ∧ a.stop < a.start ∧ a.start ≤ 65535 ∧ AInv l) := by
  simp only [AInv, List.pairwise_cons, List.mem_cons, forall_eq_or_imp]
  constructor
  · rintro ⟨⟨h1, h2⟩, ⟨h3, h4⟩, h5⟩; exact ⟨h1, h3, h4, h2, h5⟩
  · rintro ⟨h1, h3, h4, h2, h5⟩; exact ⟨⟨h1, h2⟩, ⟨h3, h4⟩, h5⟩

theorem ainv_init : AInv init := by
  simp [AInv, init, MAX_PACKET_ID]

theorem isFree_bounds {l : St} (h : AInv l) {q : Nat} (hq : isFree l q) : 1 ≤ q ∧ q ≤ 65535 := by
  obtain ⟨iv, hm, h1, h2⟩ := hq
  have := h.2 iv hm
  omega

/-- under the invariant, "every interval lies above `lo`" is a statement about the free set alone -/
theorem above_iff {l : St} (h : AInv l) (lo : Nat) : (∀ b ∈ l, lo < b.stop) ↔ ∀ q, isFree l q → lo + 1 < q := by
  constructor
  · rintro hb q ⟨iv, hm, h1, _⟩; have := hb iv hm; omega
  · intro hq b hb
    have := hq (b.stop + 1) ⟨b, hb, by omega, (h.2 b hb).1⟩
    omega

theorem allocate_spec (l : St) (h : AInv l) :
    (l = [] → allocate l = (0, [])) ∧
    (l ≠ [] →
      (allocate l).1 ≠ 0 ∧ isFree l (allocate l).1 ∧ (∀ q, isFree l q → (allocate l).1 ≤ q) ∧ AInv (allocate l).2 ∧
      (∀ q, isFree (allocate l).2 q ↔ (isFree l q ∧ q ≠ (allocate l).1))) := by
  refine ⟨fun h0 => by subst h0; rfl, fun hne => ?_⟩
  match l, h with
  | a :: r, h =>
    obtain ⟨h1, h2, h3, h4⟩ := ainv_cons.mp h
    -- the rest of the list lies above `a`, so `a.stop + 1` is the lowest free id; both branches take it
    have hr : ∀ q, isFree r q → a.start + 1 < q := (above_iff h4 _).mp h1
    simp only [allocate]
    split <;> simp only [ainv_cons, isFree_cons] <;> grind

/-- `allocate_spec` on the free set alone, whatever the list: 0 when nothing is free, else the lowest free id; that id is what leaves the set -/
theorem allocate_lowest {l : St} (h : AInv l) :
    (((allocate l).1 = 0 ∧ ∀ q, ¬ isFree l q) ∨ (isFree l (allocate l).1 ∧ ∀ q, isFree l q → (allocate l).1 ≤ q)) ∧
    AInv (allocate l).2 ∧ ∀ q, isFree (allocate l).2 q ↔ (isFree l q ∧ q ≠ (allocate l).1) := by
  by_cases hnil : l = []
  · subst hnil
    exact ⟨.inl ⟨rfl, fun q => (isFree_nil q).mp⟩, ainv_nil, fun q => by simp [allocate]⟩
  · obtain ⟨_, hf, hmin, hA', hiff⟩ := (allocate_spec l h).2 hnil
    exact ⟨.inr ⟨hf, hmin⟩, hA', hiff⟩

theorem AInv.head_lt {a b : Iv} {r : St} (h : AInv (a :: b :: r)) : a.start < b.start := by
  obtain ⟨habove, _, _, hbr⟩ := ainv_cons.mp h
  obtain ⟨_, hbNonempty, _⟩ := ainv_cons.mp hbr
  have := habove b (List.mem_cons_self ..)
  omega

/-- the interval `lo + 1 … hi` put in front of a list that lies at or above `hi`: one interval with the head when the two touch -/
def join (hi lo : Nat) : St → St
  | b :: rest => if b.stop = hi then ⟨b.start, lo⟩ :: rest else ⟨hi, lo⟩ :: b :: rest
  | [] => [⟨hi, lo⟩]

theorem join_spec {hi lo : Nat} {l : St} (h : AInv l) (hn : lo < hi) (hmax : hi ≤ 65535) (hab : ∀ b ∈ l, hi ≤ b.stop) :
    AInv (join hi lo l) ∧ ∀ q, isFree (join hi lo l) q ↔ ((lo < q ∧ q ≤ hi) ∨ isFree l q) := by
  cases l with
  | nil => exact ⟨ainv_cons.mpr ⟨by simp, hn, hmax, ainv_nil⟩, fun q => isFree_cons ..⟩
  | cons b rest =>
    obtain ⟨hbr, hb1, hb2, hr⟩ := ainv_cons.mp h
    have hnb := hab b (List.mem_cons_self ..)
    simp only [join]
    split
    · -- they touch: `lo … hi = b.stop … b.start` is one interval
      simp only [ainv_cons, isFree_cons]
      refine ⟨⟨hbr, by omega, hb2, hr⟩, fun q => ?_⟩
      have hjoin : (lo < q ∧ q ≤ b.start) ↔ (lo < q ∧ q ≤ hi) ∨ (b.stop < q ∧ q ≤ b.start) := by omega
      rw [hjoin, or_assoc]
    · -- they do not: the new interval lies apart below `b`, and `b` below the rest
      simp only [ainv_cons (a := ⟨hi, lo⟩), List.forall_mem_cons]
      refine ⟨⟨⟨by omega, fun c hc => ?_⟩, hn, hmax, h⟩, fun q => isFree_cons ..⟩
      have := hbr c hc
      omega

theorem free_below {a : Iv} {r : St} {p : Nat} (h : AInv (a :: r)) (hp : p ≤ a.start) :
    free p (a :: r) = join p (pred16 p) (a :: r) := by
  cases r with
  | nil => rw [free, if_neg (by omega)]; rfl
  | cons b rest => have := h.head_lt; rw [free, if_neg (by omega), if_neg (by omega)]; rfl

theorem free_far {a : Iv} {r : St} {p : Nat} (h : AInv r) (hp : a.start + 1 < p) : free p (a :: r) = a :: free p r := by
  cases r with
  | nil => rw [free, free, if_pos (by omega), if_neg (by omega)]
  | cons b rest =>
    rw [free]
    by_cases hb : b.start < p
    · rw [if_pos hb]
    · rw [if_neg hb, if_pos (by omega), free_below h (by omega)]
      simp only [if_neg (show ¬ a.start + 1 = p by omega), join]
      split <;> rfl

theorem free_adjacent {a : Iv} {r : St} {p : Nat} (h : AInv (a :: r)) (hp : a.start + 1 = p) :
    free p (a :: r) = join p a.stop r := by
  cases r with
  | nil => rw [free, if_pos (by omega), if_pos hp]; rfl
  | cons b rest => have := h.head_lt; rw [free, if_neg (by omega), if_pos (by omega), if_pos hp, if_pos hp]; rfl

theorem pred16_of_pos {p : Nat} (h1 : 1 ≤ p) (h2 : p ≤ 65535) : pred16 p = p - 1 := by
  unfold pred16; omega

theorem free_spec (p : Nat) (hp1 : 1 ≤ p) (hp2 : p ≤ 65535) (l : St) (h : AInv l) (hnf : ¬ isFree l p) :
    AInv (free p l) ∧ ∀ q, isFree (free p l) q ↔ (isFree l q ∨ q = p) := by
  have hp := pred16_of_pos hp1 hp2
  -- the fresh interval holds `p` alone
  have fresh : ∀ {l : St}, AInv l → (∀ b ∈ l, p ≤ b.stop) →
      AInv (join p (p - 1) l) ∧ ∀ q, isFree (join p (p - 1) l) q ↔ (isFree l q ∨ q = p) := fun h hab => by
    obtain ⟨i1, i2⟩ := join_spec (lo := p - 1) h (by omega) hp2 hab
    refine ⟨i1, fun q => ?_⟩
    have hnew : (p - 1 < q ∧ q ≤ p) ↔ q = p := by omega
    rw [i2, hnew, or_comm]
  induction l with
  | nil => rw [free, hp]; exact fresh ainv_nil (by simp)
  | cons a r ih =>
    obtain ⟨har, ha1, ha2, hr⟩ := ainv_cons.mp h
    rw [isFree_cons] at hnf
    by_cases hlt : p ≤ a.start
    · -- `p` is not in `a`, so it lies below all of `a`, and `a` below the rest
      rw [free_below h hlt, hp]
      exact fresh h (List.forall_mem_cons.mpr ⟨by omega, fun c hc => by have := har c hc; omega⟩)
    · by_cases hadj : a.start + 1 = p
      · -- `p` is the id just above `a`: `a` grows upwards by one
        rw [free_adjacent h hadj]
        obtain ⟨i1, i2⟩ := join_spec (lo := a.stop) hr (by omega) hp2 (fun c hc => by have := har c hc; omega)
        refine ⟨i1, fun q => ?_⟩
        have hup : (a.stop < q ∧ q ≤ p) ↔ (a.stop < q ∧ q ≤ a.start) ∨ q = p := by omega
        rw [i2, isFree_cons, hup, or_right_comm]
      · rw [free_far hr (by omega)]
        obtain ⟨i1, i2⟩ := ih hr (fun hh => hnf (Or.inr hh))
        refine ⟨ainv_cons.mpr ⟨?_, ha1, ha2, i1⟩, fun q => by simp only [isFree_cons, i2, or_assoc]⟩
        -- the head condition, read as a statement about the free set, comes from the induction hypothesis itself
        rw [above_iff i1]
        intro q hq
        rcases (i2 q).mp hq with hq | rfl
        · exact (above_iff hr _).mp har q hq
        · omega

end Mqtt5V.Proofs.PidAlloc
