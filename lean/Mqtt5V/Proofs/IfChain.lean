/-! The validators and the handshake are chains `if c₁ then e₁ else if c₂ then e₂ else … else x`.  Such a chain takes a value `v` that
none of the `eᵢ` is exactly when no test fires and `x = v`: one rewrite per step.  The side condition `eᵢ ≠ v` is left to `simp`
(`reduceCtorEq` for constructors, `decide := true` for numerals behind a definition). -/
namespace Mqtt5V

theorem ite_eq_of_ne {α} {c : Prop} [Decidable c] {e x v : α} (h : e ≠ v) : (if c then e else x) = v ↔ ¬ c ∧ x = v := by
  split <;> simp [*]

end Mqtt5V
