import Mqtt5V.Model.TraceIn
import Mqtt5V.Proofs.Lts
/-! Composed inbound model: its accepted steps, what the completion handlers leave alone, and the acknowledgement budgets (C04). -/
namespace Mqtt5V.Proofs.TraceIn
open Mqtt5V.Model.TraceIn

theorem isRun : Lts.IsRun step run := ⟨fun _ => rfl, fun _ _ _ => rfl⟩

theorem run_prefix {s : S} {a b : List Ev} {s' : S} (h : run s (a ++ b) = some s') : ∃ s1, run s a = some s1 ∧ run s1 b = some s' :=
  isRun.split h

theorem inv_reach (I : List Ev → S → Prop) (h0 : I [] init)
    (hstep : ∀ h s e s', I h s → step s e = some s' → I (h ++ [e]) s') : ∀ tr s, run init tr = some s → I tr s :=
  fun _ _ hr => isRun.reach I h0 hstep hr

theorem accepts_iff (tr : List Ev) : accepts tr = true ↔ ∃ s, run init tr = some s := by
  simp [accepts, Option.isSome_iff_exists]

theorem pop_head {q : List (Nat × Nat)} {pid m : Nat} {rest : List (Nat × Nat)} (h : pop q pid = some (m, rest)) : q = (pid, m) :: rest := by
  cases q with
  | nil => cases h
  | cons x xs =>
    simp only [pop] at h
    split at h <;> cases h
    subst pid; rfl

/-- what a lost session puts into the receive channel: the `session_expired` report, which the model writes as the item (9, 0, 0), if a
subscription had succeeded -/
def report (s : S) : List (Nat × Nat × Nat) := if s.subs then [(9, 0, 0)] else []

theorem report_countP {P : Nat × Nat × Nat → Bool} (h : P (9, 0, 0) = false) (s : S) : (report s).countP P = 0 := by
  unfold report; split <;> simp [h]

theorem report_filterMap {α : Type} {f : Nat × Nat × Nat → Option α} (h : f (9, 0, 0) = none) (s : S) : (report s).filterMap f = [] := by
  unfold report; split <;> simp [h]

/-- one constructor for each way `step s e` can be `some s'`; `Step.of_step` is the only place where `step` is opened -/
inductive Step (s : S) : Ev → S → Prop
  | resumed : Step s (.connUp true) (requeue s)
  -- the model has `if s.subs then s.stored ++ [(9, 0, 0)] else s.stored`; the append form lets the `countP` / `filterMap` lemmas for `++`
  -- apply whether or not a report is due
  | lost : Step s (.connUp false) (requeue { s with waiter := fun _ => none, subs := false, stored := s.stored ++ report s })
  | rxPub0 pid msg : Step s (.rxPub 0 pid msg) { s with stored := s.stored ++ [(0, pid, msg)] }
  | rxPub1 pid msg : Step s (.rxPub 1 pid msg) { s with ackQ := s.ackQ ++ [(pid, msg)] }
  | rxPub2 pid msg : Step s (.rxPub 2 pid msg) { s with recQ := s.recQ ++ [(pid, msg)] }
  | relBad pid : Step s (.rxRel pid false) s
  | relWaited pid m (hw : s.waiter pid = some m) :
      Step s (.rxRel pid true) { s with waiter := upd s.waiter pid none, compQ := s.compQ ++ [(pid, m)] }
  | relEarly pid (hw : s.waiter pid = none) : Step s (.rxRel pid true) { s with fastRel := upd s.fastRel pid true }
  | wr (hw : s.writing = false) : Step s .wr { s with writing := true, fastRel := fun _ => false }
  | puback pid m rest (hw : s.writing = true) (hq : s.ackQ = (pid, m) :: rest) :
      Step s (.pk (.puback pid)) { s with ackQ := rest, batch := s.batch ++ [.ackI pid m] }
  | pubrec pid m rest (hw : s.writing = true) (hq : s.recQ = (pid, m) :: rest) :
      Step s (.pk (.pubrec pid)) { s with recQ := rest, batch := s.batch ++ [.recI pid m] }
  | pubcomp pid m rest (hw : s.writing = true) (hq : s.compQ = (pid, m) :: rest) :
      Step s (.pk (.pubcomp pid)) { s with compQ := rest, batch := s.batch ++ [.compI pid m] }
  | other (hw : s.writing = true) : Step s (.pk .other) s
  | wrOk (hw : s.writing = true) : Step s .wrOk (drain finishOk { s with writing := false, batch := [] } s.batch)
  | wrFail (hw : s.writing = true) : Step s .wrFail (drain finishFail { s with writing := false, batch := [] } s.batch)
  | deliver qos pid msg rest (hst : s.stored = (qos, pid, msg) :: rest) : Step s (.deliver qos pid msg) { s with stored := rest }
  | reset : Step s .reset { s with ackQ := [], recQ := [], compQ := [], waiter := fun _ => none, stored := [] }
  | subOk : Step s .subOk { s with subs := true }

theorem Step.of_step {s s' : S} {e : Ev} (h : step s e = some s') : Step s e s' := by
  cases e with
  | connUp sp =>
    cases sp <;> cases h
    -- the model's `if`, brought into the append form of `Step.lost`
    · rw [show (if s.subs then s.stored ++ [(9, 0, 0)] else s.stored) = s.stored ++ report s by unfold report; split <;> simp]
      constructor
    · constructor
  | rxPub qos pid msg =>
    simp only [step] at h
    split at h
    · subst qos; cases h; constructor
    · split at h
      · subst qos; cases h; constructor
      · split at h
        · subst qos; cases h; constructor
        · cases h
  | rxRel pid good =>
    cases good
    · cases h; constructor
    · simp only [step, Bool.not_true, Bool.false_eq_true, if_false] at h
      split at h <;> cases h
      · exact .relWaited _ _ ‹_›
      · exact .relEarly _ ‹_›
  | wr =>
    simp only [step] at h
    split at h
    · cases h
    · cases h; exact .wr (Bool.eq_false_iff.mpr ‹_›)
  | pk p =>
    simp only [step] at h
    split at h
    · cases p with
      | other => cases h; exact .other ‹_›
      | puback pid => obtain ⟨⟨m, rest⟩, hp, rfl⟩ := Option.map_eq_some_iff.mp h; exact .puback _ _ _ ‹_› (pop_head hp)
      | pubrec pid => obtain ⟨⟨m, rest⟩, hp, rfl⟩ := Option.map_eq_some_iff.mp h; exact .pubrec _ _ _ ‹_› (pop_head hp)
      | pubcomp pid => obtain ⟨⟨m, rest⟩, hp, rfl⟩ := Option.map_eq_some_iff.mp h; exact .pubcomp _ _ _ ‹_› (pop_head hp)
    · cases h
  | wrOk =>
    simp only [step] at h
    split at h <;> cases h
    exact .wrOk ‹_›
  | wrFail =>
    simp only [step] at h
    split at h <;> cases h
    exact .wrFail ‹_›
  | deliver qos pid msg =>
    simp only [step] at h
    split at h
    · split at h
      · subst_vars; cases h; exact .deliver _ _ _ _ ‹_›
      · cases h
    · cases h
  | reset => cases h; constructor
  | subOk => cases h; constructor

theorem drain_ind (f : S → Item → S) (P : S → List Item → Prop) (hf : ∀ s it rest, P s (it :: rest) → P (f s it) rest) :
    ∀ (items : List Item) {tail : List Item} {s : S}, P s (items ++ tail) → P (drain f s items) tail
  | [], _, _, h => h
  | it :: rest, _, _, h => drain_ind f P hf rest (hf _ it _ h)

theorem drain_obs {α : Type} (g : S → α) (f : S → Item → S) (hf : ∀ s it, g (f s it) = g s) (items : List Item) (t : S) :
    g (drain f t items) = g t :=
  drain_ind f (fun s _ => g s = g t) (fun s it _ h => (hf s it).trans h) items (tail := []) rfl

theorem drain_batch (f : S → Item → S) (hf : ∀ s it, (f s it).batch = s.batch) : ∀ (items : List Item) (t : S), (drain f t items).batch = t.batch :=
  drain_obs (·.batch) f hf

/-- `wait_pubrel`, and with it the handlers of a failed write (all that `resend()` does once it has emptied the three queues), touches only
the PUBREL bookkeeping: the waiters, the PUBRELs that came early and the queue of PUBCOMPs. Whatever does not look at these is unchanged. -/
theorem waitRel_obs {α : Type} (g : S → α) (hg : ∀ s w f c, g { s with waiter := w, fastRel := f, compQ := c } = g s) (s : S) (pid msg : Nat) :
    g (waitRel s pid msg) = g s := by
  unfold waitRel; split <;> apply hg

theorem finishFail_obs {α : Type} (g : S → α) (hg : ∀ s w f c, g { s with waiter := w, fastRel := f, compQ := c } = g s) (s : S) (it : Item) :
    g (finishFail s it) = g s := by
  cases it with
  | compI pid msg => exact waitRel_obs g hg s pid msg
  | _ => rfl

theorem finishOk_obs {α : Type} (g : S → α) (hg : ∀ s w f c st, g { s with waiter := w, fastRel := f, compQ := c, stored := st } = g s) (s : S)
    (it : Item) : g (finishOk s it) = g s := by
  cases it with
  | recI pid msg => exact waitRel_obs g (fun s w f c => hg s w f c s.stored) s pid msg
  | _ => apply hg

theorem finishOk_batch (s : S) (it : Item) : (finishOk s it).batch = s.batch := finishOk_obs (·.batch) (fun _ _ _ _ _ => rfl) s it

theorem finishFail_batch (s : S) (it : Item) : (finishFail s it).batch = s.batch := finishFail_obs (·.batch) (fun _ _ _ _ => rfl) s it

section
variable (items : List Item) (t : S)
@[simp] theorem drainOk_ackQ : (drain finishOk t items).ackQ = t.ackQ := drain_obs (·.ackQ) _ (finishOk_obs _ fun _ _ _ _ _ => rfl) items t
@[simp] theorem drainOk_recQ : (drain finishOk t items).recQ = t.recQ := drain_obs (·.recQ) _ (finishOk_obs _ fun _ _ _ _ _ => rfl) items t
@[simp] theorem drainOk_batch : (drain finishOk t items).batch = t.batch := drain_batch _ finishOk_batch items t
@[simp] theorem drainOk_subs : (drain finishOk t items).subs = t.subs := drain_obs (·.subs) _ (finishOk_obs _ fun _ _ _ _ _ => rfl) items t
@[simp] theorem drainFail_ackQ : (drain finishFail t items).ackQ = t.ackQ := drain_obs (·.ackQ) _ (finishFail_obs _ fun _ _ _ _ => rfl) items t
@[simp] theorem drainFail_recQ : (drain finishFail t items).recQ = t.recQ := drain_obs (·.recQ) _ (finishFail_obs _ fun _ _ _ _ => rfl) items t
@[simp] theorem drainFail_batch : (drain finishFail t items).batch = t.batch := drain_batch _ finishFail_batch items t
@[simp] theorem drainFail_subs : (drain finishFail t items).subs = t.subs := drain_obs (·.subs) _ (finishFail_obs _ fun _ _ _ _ => rfl) items t
@[simp] theorem drainFail_stored : (drain finishFail t items).stored = t.stored := drain_obs (·.stored) _ (finishFail_obs _ fun _ _ _ _ => rfl) items t
@[simp] theorem requeue_ackQ : (requeue t).ackQ = [] := drainFail_ackQ _ _
@[simp] theorem requeue_recQ : (requeue t).recQ = [] := drainFail_recQ _ _
@[simp] theorem requeue_batch : (requeue t).batch = t.batch := drainFail_batch _ _
@[simp] theorem requeue_subs : (requeue t).subs = t.subs := drainFail_subs _ _
@[simp] theorem requeue_stored : (requeue t).stored = t.stored := drainFail_stored _ _
end

/-- what the handler of a successfully written acknowledgement puts into the receive channel -/
def chanOf : Item → Option (Nat × Nat × Nat)
  | .ackI pid msg => some (1, pid, msg)
  | .recI _ _ => none
  | .compI pid msg => some (2, pid, msg)

theorem chanOf_tag {items : List Item} {x : Nat × Nat × Nat} (h : x ∈ items.filterMap chanOf) : x.1 = 1 ∨ x.1 = 2 := by
  obtain ⟨it, _, hx⟩ := List.mem_filterMap.mp h
  cases it <;> simp [chanOf] at hx <;> simp [← hx]

@[simp] theorem drainOk_stored (items : List Item) (t : S) : (drain finishOk t items).stored = t.stored ++ items.filterMap chanOf := by
  induction items generalizing t with
  | nil => simp [drain]
  | cons it rest ih =>
    rw [drain, ih]
    cases it with
    | recI pid msg => simp [finishOk, chanOf, List.filterMap_cons, waitRel_obs (·.stored) (fun _ _ _ _ => rfl)]
    | _ => simp [finishOk, chanOf]

theorem cnt_snoc (P : Ev → Bool) (h : List Ev) (e : Ev) : cnt P (h ++ [e]) = cnt P h + (if P e then 1 else 0) := by
  simp [cnt, List.countP_append, List.countP_cons]

theorem cnt_snoc' (P : Ev → Bool) (h : List Ev) (e : Ev) : cnt P (h ++ [e]) = cnt P h + (P e).toNat := List.countP_snoc_toNat P h e

def qcount (q : List (Nat × Nat)) (p : Nat) : Nat := q.countP (fun x => x.1 == p)
def qcountM (q : List (Nat × Nat)) (p m : Nat) : Nat := q.countP (fun x => x.1 == p && x.2 == m)

def isAckI (p : Nat) : Item → Bool | .ackI q _ => q == p | _ => false
def isRecI (p : Nat) : Item → Bool | .recI q _ => q == p | _ => false
def isCompI (p : Nat) : Item → Bool | .compI q _ => q == p | _ => false

theorem recItems_count (q : List (Nat × Nat)) (p : Nat) : (q.map fun x => Item.recI x.1 x.2).countP (isCompI p) = 0 := by
  simp [List.countP_map, List.countP_eq_zero, isCompI]

/-- PUBCOMPs the client may still write: queued, or owed to a PUBREL that came early -/
def compOwed (s : S) (p : Nat) : Nat := qcount s.compQ p + (s.fastRel p).toNat
/-- QoS 2 messages whose PUBCOMP is written or in the write in progress, and which the application has not been handed yet -/
def compWritten (s : S) (p : Nat) : Nat := s.stored.countP (fun x => x.1 == 2 && x.2.1 == p) + s.batch.countP (isCompI p)

/-- `wait_pubrel` either registers a waiter or trades the early PUBREL for a queued PUBCOMP -/
theorem waitRel_compOwed (p : Nat) (s : S) (pid msg : Nat) : compOwed (waitRel s pid msg) p = compOwed s p := by
  unfold waitRel; split
  · rename_i hf
    simp only [compOwed, qcount, List.countP_snoc_toNat, upd]
    split
    · subst p; simp [hf]
    · rename_i hp; simp [Ne.symm hp]
  · rfl

-- of the handlers only that of a written PUBREC (a failed PUBCOMP) touches the PUBREL bookkeeping, and it does so through `wait_pubrel`
@[simp] theorem drainOk_compOwed (items : List Item) (t : S) (p : Nat) : compOwed (drain finishOk t items) p = compOwed t p := by
  refine drain_obs (compOwed · p) _ (fun s it => ?_) items t
  cases it with
  | recI pid msg => exact waitRel_compOwed p s pid msg
  | _ => rfl

@[simp] theorem drainFail_compOwed (items : List Item) (t : S) (p : Nat) : compOwed (drain finishFail t items) p = compOwed t p := by
  refine drain_obs (compOwed · p) _ (fun s it => ?_) items t
  cases it with
  | compI pid msg => exact waitRel_compOwed p s pid msg
  | _ => rfl

/-- `resend()` empties the PUBCOMP queue before it runs the handlers, which keep `compOwed`: the early PUBRELs are what is left of it -/
@[simp] theorem requeue_compOwed (s : S) (p : Nat) : compOwed (requeue s) p = (s.fastRel p).toNat := by
  rw [requeue, drainFail_compOwed]; simp [compOwed, qcount]

theorem chanOf_count2 (items : List Item) (p : Nat) :
    (items.filterMap chanOf).countP (fun x => x.1 == 2 && x.2.1 == p) = items.countP (isCompI p) := by
  rw [List.countP_filterMap]
  congr 1; funext it; cases it <;> rfl

attribute [local simp] isPuback isPubrec isPubcomp isDeliver2 isRxPub isGoodRel in
/-- the step condition of `count_flow` for the four ledgers of C04 at once: PUBACKs against QoS 1 PUBLISHes, PUBRECs against QoS 2 PUBLISHes,
PUBCOMPs against good PUBRELs, QoS 2 deliveries against PUBCOMPs -/
theorem budget_step {s s' : S} {e : Ev} (h : Step s e s') (p : Nat) :
    (isPuback p e).toNat + qcount s'.ackQ p ≤ qcount s.ackQ p + (isRxPub 1 p e).toNat ∧
    (isPubrec p e).toNat + qcount s'.recQ p ≤ qcount s.recQ p + (isRxPub 2 p e).toNat ∧
    (isPubcomp p e).toNat + compOwed s' p ≤ compOwed s p + (isGoodRel p e).toNat ∧
    (isDeliver2 p e).toNat + compWritten s' p ≤ compWritten s p + (isPubcomp p e).toNat := by
  cases h with
  | wrFail _ =>
    -- the handlers of a failed write keep the queues, the channel and `compOwed` (`drainFail_compOwed`), and the batch is given up
    simp only [compWritten, drainFail_ackQ, drainFail_recQ, drainFail_compOwed, drainFail_stored, drainFail_batch]
    simp [compOwed]
  | resumed | lost =>
    -- `resend()` empties the PUBACK and PUBREC queues and leaves of `compOwed` the early PUBRELs (`requeue_compOwed`); the report is no
    -- QoS 2 message
    simp only [compWritten, requeue_ackQ, requeue_recQ, requeue_compOwed, requeue_stored, requeue_batch]
    simp [compOwed, qcount, List.countP_append, report_countP]
  | wrOk _ =>
    -- the handlers keep the queues and `compOwed` (`drainOk_compOwed`); the messages of the written PUBCOMPs go from the batch into the channel
    simp only [compWritten, drainOk_ackQ, drainOk_recQ, drainOk_compOwed, drainOk_stored, drainOk_batch, List.countP_append, chanOf_count2]
    simp [compOwed]
  | relEarly pid hw =>
    -- the early PUBREL is remembered once, however often it arrives
    have : (upd s.fastRel pid true p).toNat ≤ (s.fastRel p).toNat + (pid == p).toNat := by
      unfold upd; split
      · subst p; simp
      · omega
    simp [compOwed, compWritten]; omega
  -- every other event moves at most one entry of one queue, the batch or the channel by one place (or adds the PUBLISH / PUBREL it counts);
  -- `wr` forgets the early PUBRELs, `reset` empties the queues and the channel
  | _ => simp [compOwed, compWritten, qcount, isCompI, List.countP_cons_toNat, *] <;> omega

theorem count_le (out inp : Ev → Bool) (μ : S → Nat) (h0 : μ init = 0)
    (hstep : ∀ {s e s'}, Step s e s' → (out e).toNat + μ s' ≤ μ s + (inp e).toNat)
    {tr pre post : List Ev} (hacc : accepts tr = true) (hsplit : tr = pre ++ post) : cnt out pre ≤ cnt inp pre := by
  obtain ⟨s, hr⟩ := isRun.isSome_prefix hacc hsplit
  have := isRun.count_flow out inp μ (fun _ _ _ h => hstep (.of_step h)) hr
  unfold cnt; omega

theorem sublist_le {α : Type} (out inp : Ev → Option α) (μ : S → List α) (h0 : μ init = [])
    (hstep : ∀ {s e s'}, Step s e s' → ((out e).toList ++ μ s').Sublist (μ s ++ (inp e).toList))
    {tr pre post : List Ev} (hacc : accepts tr = true) (hsplit : tr = pre ++ post) : (pre.filterMap out).Sublist (pre.filterMap inp) := by
  obtain ⟨s, hr⟩ := isRun.isSome_prefix hacc hsplit
  exact (List.sublist_append_left _ _).trans (h0 ▸ isRun.sublist_flow out inp μ (fun _ _ _ h => hstep (.of_step h)) hr)

/-- C04, the acknowledgement budgets per broker identifier; said in the client's terms at `Props.C04.composed_inbound_acks_justified` -/
theorem inbound_acks_justified {tr : List Ev} (hacc : accepts tr = true) (pre post : List Ev) (hsplit : tr = pre ++ post) (p : Nat) :
    cnt (isPuback p) pre ≤ cnt (isRxPub 1 p) pre ∧ cnt (isPubrec p) pre ≤ cnt (isRxPub 2 p) pre ∧
    cnt (isPubcomp p) pre ≤ cnt (isGoodRel p) pre ∧ cnt (isDeliver2 p) pre ≤ cnt (isGoodRel p) pre := by
  have comp := count_le (isPubcomp p) (isGoodRel p) (compOwed · p) rfl (fun h => (budget_step h p).2.2.1) hacc hsplit
  -- a QoS 2 message is handed over only when its PUBCOMP has been written, and that only when the PUBREL has come
  exact ⟨count_le (isPuback p) (isRxPub 1 p) (fun s => qcount s.ackQ p) rfl (fun h => (budget_step h p).1) hacc hsplit,
    count_le (isPubrec p) (isRxPub 2 p) (fun s => qcount s.recQ p) rfl (fun h => (budget_step h p).2.1) hacc hsplit, comp,
    Nat.le_trans (count_le (isDeliver2 p) (isPubcomp p) (compWritten · p) rfl (fun h => (budget_step h p).2.2.2) hacc hsplit) comp⟩

end Mqtt5V.Proofs.TraceIn
