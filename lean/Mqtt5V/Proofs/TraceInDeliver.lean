import Mqtt5V.Proofs.TraceIn
/-! What reaches the application in the composed inbound model.  Content: a message is held in one place at a time from its PUBLISH to
its delivery (C04).  Order: the receive channel is first in, first out, so QoS 0 / QoS 1 messages are delivered in arrival order (C04),
and the `session_expired` reports are bounded by those due and keep their place among the QoS 0 messages (C13). -/
namespace Mqtt5V.Proofs.TraceIn
open Mqtt5V.Model.TraceIn

def qcM (q : List (Nat × Nat)) (p m : Nat) : Nat := q.countP (fun x => x.1 == p && x.2 == m)
def isAckM (p m : Nat) : Item → Bool | .ackI p' m' => p' == p && m' == m | _ => false
def isRecM (p m : Nat) : Item → Bool | .recI p' m' => p' == p && m' == m | _ => false
def isCompM (p m : Nat) : Item → Bool | .compI p' m' => p' == p && m' == m | _ => false

theorem recItems_ack (q0 : List (Nat × Nat)) (p m : Nat) : (q0.map fun x => Item.recI x.1 x.2).countP (isAckM p m) = 0 := by
  simp [List.countP_map, List.countP_eq_zero, isAckM]

theorem recItems_comp (q0 : List (Nat × Nat)) (p m : Nat) : (q0.map fun x => Item.recI x.1 x.2).countP (isCompM p m) = 0 := by
  simp [List.countP_map, List.countP_eq_zero, isCompM]

theorem recItems_rec (q0 : List (Nat × Nat)) (p m : Nat) : (q0.map fun x => Item.recI x.1 x.2).countP (isRecM p m) = qcM q0 p m := by
  simp [List.countP_map, qcM, Function.comp_def, isRecM]

/-- (QoS, identifier, message) of the exchange an acknowledgement belongs to -/
def keyOf : Item → Nat × Nat × Nat
  | .ackI pid msg => (1, pid, msg)
  | .recI pid msg => (2, pid, msg)
  | .compI pid msg => (2, pid, msg)

/-- every place but the waiters: the receive channel, the three queues, and the acknowledgements `rem` of the write in progress whose
handler has not run yet -/
def held (s : S) (rem : List Item) : List (Nat × Nat × Nat) :=
  s.stored ++ s.ackQ.map (fun x => (1, x)) ++ s.recQ.map (fun x => (2, x)) ++ s.compQ.map (fun x => (2, x)) ++ rem.map keyOf

def isM (q p m : Nat) (x : Nat × Nat × Nat) : Bool := x.1 == q && x.2.1 == p && x.2.2 == m

/-- how often the client holds message `m` of the exchange (`q`, `p`) -/
def hold (s : S) (rem : List Item) (q p m : Nat) : Nat := (held s rem).countP (isM q p m) + (2 == q && s.waiter p == some m).toNat

/-- `wait_pubrel` holds the message in the waiter or, with an early PUBREL, in the PUBCOMP queue; an older waiter's message is dropped -/
theorem waitRel_hold (q p m : Nat) (s : S) (pid msg : Nat) (rem : List Item) :
    hold (waitRel s pid msg) rem q p m ≤ hold s rem q p m + (isM q p m (2, pid, msg)).toNat := by
  unfold waitRel; split
  · simp only [hold, held, List.countP_append, List.map_append, List.map_cons, List.map_nil, List.countP_cons_toNat, List.countP_nil, upd]
    split
    · simp; omega
    · omega
  · simp only [hold, held, upd, isM]
    split
    · subst p; simp
    · omega

theorem hold_cons (s : S) (it : Item) (rest : List Item) (q p m : Nat) :
    hold s (it :: rest) q p m = hold s rest q p m + (isM q p m (keyOf it)).toNat := by
  simp only [hold, held, List.map_cons, List.countP_append, List.countP_cons_toNat]; omega

theorem finishOk_hold (q p m : Nat) (s : S) (it : Item) (rest : List Item) : hold (finishOk s it) rest q p m ≤ hold s (it :: rest) q p m := by
  rw [hold_cons]
  cases it with
  | recI pid msg => exact waitRel_hold q p m s pid msg rest
  | _ => simp only [finishOk, keyOf, hold, held, List.countP_append, List.countP_cons_toNat, List.countP_nil]; omega

theorem finishFail_hold (q p m : Nat) (s : S) (it : Item) (rest : List Item) : hold (finishFail s it) rest q p m ≤ hold s (it :: rest) q p m := by
  rw [hold_cons]
  cases it with
  | compI pid msg => exact waitRel_hold q p m s pid msg rest
  | _ => exact Nat.le_add_right _ _

theorem drain_hold (q p m : Nat) (f : S → Item → S) (hf : ∀ s it rest, hold (f s it) rest q p m ≤ hold s (it :: rest) q p m)
    (items tail : List Item) (t : S) : hold (drain f t items) tail q p m ≤ hold t (items ++ tail) q p m :=
  drain_ind f (fun s rem => hold s rem q p m ≤ hold t (items ++ tail) q p m) (fun s it rest h => Nat.le_trans (hf s it rest) h) items
    (Nat.le_refl _)

/-- `resend()` gives up the queued PUBACKs and PUBRECs; the queued PUBCOMPs go back to waiting -/
theorem requeue_hold (s : S) (q p m : Nat) : hold (requeue s) (requeue s).batch q p m ≤ hold s s.batch q p m := by
  rw [requeue_batch, requeue]
  -- the queued PUBCOMPs are handed to the handlers as the items `compI`, which have the same key
  refine Nat.le_trans (drain_hold q p m _ (finishFail_hold q p m) _ _ _) ?_
  simp [hold, held, isM, List.countP_append, List.countP_map, Function.comp_def, keyOf]
  omega

/-- content ledger: a message leaves the client's hold only by a delivery and enters it only with its PUBLISH.  `h9`: the
`session_expired` item (9, 0, 0) is the one thing in the channel that no PUBLISH brought, so the key must not be its -/
theorem hold_step {s s' : S} {e : Ev} (h : Step s e s') (q p m : Nat) (h9 : isM q p m (9, 0, 0) = false) :
    (isDeliverMsg q p m e).toNat + hold s' s'.batch q p m ≤ hold s s.batch q p m + (isRxPubMsg q p m e).toNat := by
  cases h with
  | resumed => simpa [isDeliverMsg, isRxPubMsg] using requeue_hold s q p m
  | lost =>
    -- `resend()` as before; ahead of it the waiters are dropped and the report is put into the channel, which `h9` keeps out of the count
    refine Nat.le_trans (Nat.add_le_add_left (requeue_hold _ q p m) _) ?_
    simp [isDeliverMsg, isRxPubMsg, hold, held, List.countP_append, report_countP h9]
  | wrOk _ => simpa [isDeliverMsg, isRxPubMsg, hold, held] using drain_hold q p m finishOk (finishOk_hold q p m) s.batch [] { s with writing := false, batch := [] }
  | wrFail _ => simpa [isDeliverMsg, isRxPubMsg, hold, held] using drain_hold q p m finishFail (finishFail_hold q p m) s.batch [] { s with writing := false, batch := [] }
  | relWaited pid m0 hw =>
    -- the waiter's message goes to the PUBCOMP queue
    simp only [hold, held, List.map_append, List.map_cons, List.map_nil, List.countP_append, List.countP_cons_toNat, List.countP_nil, isM, upd,
      isDeliverMsg, isRxPubMsg, Bool.toNat_false]
    split
    · subst p; simp [hw]; omega
    · rename_i hp; simp [beq_eq_false_iff_ne.mpr (Ne.symm hp)]
  | reset => simp [hold, held, isDeliverMsg, isRxPubMsg]; omega
  -- the rest: a PUBLISH joins the end of its queue or the channel, an acknowledgement goes from the head of its queue to the batch under the
  -- same key (`keyOf`), a delivery takes the head of the channel
  | _ =>
    simp only [hold, held, List.map_append, List.map_cons, List.map_nil, List.countP_append, List.countP_cons_toNat, List.countP_nil, isM, keyOf,
      isDeliverMsg, isRxPubMsg, Bool.toNat_false, *] <;> omega

def msgOf (q : Nat) (x : Nat × Nat × Nat) : Option Nat := if x.1 = q then some x.2.2 else none
def ackMsgs (rem : List Item) : List Nat := rem.filterMap fun it => match it with | .ackI _ m => some m | _ => none
/-- the QoS 1 messages on their way to the application, first to arrive first: in the channel, PUBACK in the write in progress, PUBACK queued -/
def seq1 (s : S) : List Nat := s.stored.filterMap (msgOf 1) ++ ackMsgs s.batch ++ s.ackQ.map (·.2)

@[simp] theorem msgOf_mk (q q' p m : Nat) : msgOf q (q', p, m) = if q' = q then some m else none := rfl

theorem ackMsgs_append (a b : List Item) : ackMsgs (a ++ b) = ackMsgs a ++ ackMsgs b := List.filterMap_append

@[simp] theorem ackMsgs_nil : ackMsgs [] = [] := rfl

theorem ackMsgs_one (it : Item) : ackMsgs [it] = match it with | .ackI _ m => [m] | _ => [] := by cases it <;> rfl

theorem drain_stored_ackQ (f : S → Item → S) (hf : ∀ s it, (f s it).batch = s.batch) : True := trivial

theorem chanOf_msgs (items : List Item) :
    (items.filterMap chanOf).filterMap (msgOf 0) = [] ∧ (items.filterMap chanOf).filterMap (msgOf 1) = ackMsgs items := by
  constructor
  · exact List.filterMap_eq_nil_iff.mpr fun x hx => by rcases chanOf_tag hx with h | h <;> simp [msgOf, h]
  · rw [List.filterMap_filterMap, ackMsgs]
    congr 1; funext it; cases it <;> rfl

/-- giving up (part of) a stage leaves the rest in order -/
theorem seq1_sublist {s s' : S} (hs : (s'.stored.filterMap (msgOf 1)).Sublist (s.stored.filterMap (msgOf 1)))
    (hb : s'.batch.Sublist s.batch) (ha : s'.ackQ.Sublist s.ackQ) : (seq1 s').Sublist (seq1 s) :=
  (hs.append (hb.filterMap _)).append (ha.map _)

-- `dlvMsg`, `rxMsg`, `laneOut` retype the functions inside the model's `delivered`, `received`, `laneDelivered`, so that the flow lemmas can
-- name them; `Props.C04` / `C13` need the two to agree by definition, which the `example` below checks here and not there
def dlvMsg (q : Nat) : Ev → Option Nat := fun e => match e with | .deliver q' _ m => if q' = q then some m else none | _ => none
def rxMsg (q : Nat) : Ev → Option Nat := fun e => match e with | .rxPub q' _ m => if q' = q then some m else none | _ => none

theorem ord_step {s s' : S} {e : Ev} (h : Step s e s') :
    ((dlvMsg 0 e).toList ++ s'.stored.filterMap (msgOf 0)).Sublist (s.stored.filterMap (msgOf 0) ++ (rxMsg 0 e).toList) ∧
    ((dlvMsg 1 e).toList ++ seq1 s').Sublist (seq1 s ++ (rxMsg 1 e).toList) := by
  cases h with
  | puback pid m rest _ hq =>
    -- from the head of the queue to the end of the write in progress
    have : seq1 { s with ackQ := rest, batch := s.batch ++ [.ackI pid m] } = seq1 s := by simp [seq1, ackMsgs_append, ackMsgs_one, hq]
    simp [dlvMsg, rxMsg, this]
  | wrOk _ =>
    -- the messages of the written PUBACKs, in write order, to the end of the channel (`drainOk_stored`, `chanOf_msgs`); nothing for QoS 0
    have : seq1 (drain finishOk { s with writing := false, batch := [] } s.batch) = seq1 s := by simp [seq1, chanOf_msgs]
    simp [dlvMsg, rxMsg, this, chanOf_msgs]
  | resumed | lost | wrFail _ | reset =>
    -- given up: the queue (`resumed`, `lost`), the write in progress (`wrFail`), the queue and the channel (`reset`); the report of the lost
    -- session is no message
    exact ⟨by simp [dlvMsg, rxMsg, report_filterMap],
      by simpa [dlvMsg, rxMsg] using seq1_sublist (by simp [report_filterMap]) (by simp) (by simp)⟩
  -- the head of the channel is the head of its lane, if it is on one
  | deliver qos pid msg rest hst => simp [dlvMsg, rxMsg, seq1, List.filterMap_cons_toList, hst]
  -- a PUBLISH of QoS 0 / 1 joins the end of the channel / of ackQ, which is the end of `seq1`; the others move neither lane
  | _ => simp [dlvMsg, rxMsg, seq1, ackMsgs_append, ackMsgs_one]

theorem expiryStep_add (b : Bool) (n : Nat) (e : Ev) : expiryStep (b, n) e = ((expiryStep (b, 0) e).1, n + (expiryStep (b, 0) e).2) := by
  cases e with
  | connUp sp => cases sp <;> cases b <;> rfl
  | _ => rfl

/-- the observer `expiryStep` is run on the one event from `(s.subs, 0)`; `expiryStep_add` moves the result to where the fold stands -/
theorem exp_step {s s' : S} {e : Ev} (h : Step s e s') :
    (expiryStep (s.subs, 0) e).1 = s'.subs ∧
    (isDeliverExp e).toNat + s'.stored.countP (·.1 == 9) ≤ s.stored.countP (·.1 == 9) + (expiryStep (s.subs, 0) e).2 := by
  cases h with
  | wrOk _ =>
    have : (s.batch.filterMap chanOf).countP (·.1 == 9) = 0 :=
      List.countP_eq_zero.mpr fun x hx => by rcases chanOf_tag hx with h | h <;> simp [h]
    simp [expiryStep, isDeliverExp, List.countP_append, this]
  -- the flag is cleared; +1 due and +1 in the channel exactly when it was set
  | lost => simp [expiryStep, isDeliverExp, List.countP_append, report]; split <;> simp
  -- −1 at the head of the channel, +1 handed over, if it is a report
  | deliver qos pid msg rest hst => simp [expiryStep, isDeliverExp, List.countP_cons_toNat, hst]; omega
  -- no other event clears the flag or adds a report
  | _ => simp [expiryStep, isDeliverExp, List.countP_append]

/-- the flag of `expiryDue` is the client's `subscriptions_present`; the reports handed over and those still in the channel are among those due -/
theorem exp_reach : ∀ tr s, run init tr = some s →
    (tr.foldl expiryStep (false, 0)).1 = s.subs ∧ cnt isDeliverExp tr + s.stored.countP (·.1 == 9) ≤ (tr.foldl expiryStep (false, 0)).2 := by
  -- not `Lts.IsRun.observed`: the invariant also counts over the history, which the observer `expiryStep` does not compute
  refine inv_reach _ ?_ ?_
  · exact ⟨rfl, Nat.le_refl _⟩
  intro h s e s' ⟨hf, hb⟩ hs
  obtain ⟨h1, h2⟩ := exp_step (.of_step hs)
  rw [List.foldl_append, List.foldl_cons, List.foldl_nil]
  generalize h.foldl expiryStep (false, 0) = st at hf hb ⊢
  obtain ⟨b, n⟩ := st
  subst hf
  rw [expiryStep_add, cnt_snoc']
  exact ⟨h1, by omega⟩

/-- what a channel item shows on the QoS 0 lane, as `laneOut` (the function inside the model's `laneDelivered`) does for a delivery -/
def laneOf (x : Nat × Nat × Nat) : Option Nat := if x.1 = 0 then some x.2.2 else if x.1 = 9 then some 0 else none
def laneOut : Ev → Option Nat := fun e => match e with | .deliver q _ m => if q = 0 then some m else if q = 9 then some 0 else none | _ => none

@[simp] theorem laneOf_mk (q p m : Nat) : laneOf (q, p, m) = if q = 0 then some m else if q = 9 then some 0 else none := rfl

example (q tr) :
    delivered q tr = tr.filterMap (dlvMsg q) ∧ received q tr = tr.filterMap (rxMsg q) ∧ laneDelivered tr = tr.filterMap laneOut := ⟨rfl, rfl, rfl⟩

theorem laneStep_add (b : Bool) (l : List Nat) (e : Ev) : laneStep (b, l) e = ((laneStep (b, []) e).1, l ++ (laneStep (b, []) e).2) := by
  cases e with
  | connUp sp => cases sp <;> cases b <;> simp [laneStep]
  | rxPub q p m => simp only [laneStep]; split <;> simp
  | _ => simp only [laneStep, List.append_nil]

/-- as `exp_step`, with `laneStep` from `(s.subs, [])` and `laneStep_add` -/
theorem lane_step {s s' : S} {e : Ev} (h : Step s e s') :
    (laneStep (s.subs, []) e).1 = s'.subs ∧
    ((laneOut e).toList ++ s'.stored.filterMap laneOf).Sublist (s.stored.filterMap laneOf ++ (laneStep (s.subs, []) e).2) := by
  cases h with
  | wrOk _ =>
    have : (s.batch.filterMap chanOf).filterMap laneOf = [] :=
      List.filterMap_eq_nil_iff.mpr fun x hx => by rcases chanOf_tag hx with h | h <;> simp [laneOf, h]
    simp [laneStep, laneOut, this]
  | lost => simp [laneStep, laneOut, report]; split <;> simp
  | deliver qos pid msg rest hst => simp [laneStep, laneOut, List.filterMap_cons_toList, hst]
  -- as in `exp_step`, and rxPub0: +1 due, +1 at the end of the channel
  | _ => simp [laneStep, laneOut]

/-- the flag of `laneDue` is the client's `subscriptions_present`; what was handed over on the lane, followed by what is still in the channel,
is in the order in which it became due -/
theorem lane_reach : ∀ tr s, run init tr = some s →
    (tr.foldl laneStep (false, [])).1 = s.subs ∧ (tr.filterMap laneOut ++ s.stored.filterMap laneOf).Sublist (tr.foldl laneStep (false, [])).2 := by
  -- as in `exp_reach`: `h.filterMap laneOut` is not something `laneStep` computes
  refine inv_reach _ ?_ ?_
  · exact ⟨rfl, .refl _⟩
  intro h s e s' ⟨hf, hb⟩ hs
  obtain ⟨h1, h2⟩ := lane_step (.of_step hs)
  rw [List.foldl_append, List.foldl_cons, List.foldl_nil]
  generalize h.foldl laneStep (false, []) = st at hf hb ⊢
  obtain ⟨b, l⟩ := st
  subst hf
  rw [laneStep_add, List.filterMap_snoc_toList, List.append_assoc]
  -- out h ++ (out e ++ lane s') ⊑ out h ++ (lane s ++ new) by the step, ⊑ l ++ new by what held before
  exact ⟨h1, ((List.Sublist.refl _).append h2).trans (by simpa using hb.append (.refl _))⟩

end Mqtt5V.Proofs.TraceIn
