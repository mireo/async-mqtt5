import Mqtt5V.Model.TraceRd
import Mqtt5V.Proofs.Lts
/-! The timed read: the state is what an observer computes from the events (`nowOf`, `readOf`), so an event is accepted after `tr` exactly
when its guard holds of those two. -/
namespace Mqtt5V.Proofs.TraceRd
open Mqtt5V.Model.TraceRd

theorem isRun : Lts.IsRun step run := ⟨fun _ => rfl, fun _ _ _ => rfl⟩

variable {s s' : S}

theorem step_abandon : (step s .abandon).isSome ↔ ∃ t0 lim, s.cur = some (t0, some lim) ∧ t0 + lim ≤ s.now := by
  obtain ⟨now, _ | ⟨t0, _ | lim⟩⟩ := s <;> simp [step, and_assoc]

theorem step_eol : (step s .eol).isSome ↔ ∀ t0 lim, s.cur = some (t0, some lim) → s.now < t0 + lim := by
  obtain ⟨now, _ | ⟨t0, _ | lim⟩⟩ := s <;> simp [step]

theorem step_obs {e : Ev} (h : step s e = some s') : (s'.now, s'.cur) = readStep (s.now, s.cur) e := by
  revert h
  fun_cases step s e <;> intro h <;> cases h <;> rfl

theorem nowOf_eq (tr : List Ev) : nowOf tr = (tr.foldl readStep (0, none)).1 := by
  unfold nowOf
  exact List.foldl_hom Prod.fst (init := (0, none)) (fun _ e => by cases e <;> rfl)

theorem reach {tr : List Ev} (h : run init tr = some s) : s = ⟨nowOf tr, readOf tr⟩ := by
  have : (s.now, s.cur) = tr.foldl readStep (0, none) := isRun.fold (fun s => (s.now, s.cur)) readStep (fun _ _ _ => step_obs) h
  rw [nowOf_eq, readOf, ← this]

theorem last {tr : List Ev} {e : Ev} (h : accepts (tr ++ [e]) = true) : (step ⟨nowOf tr, readOf tr⟩ e).isSome := by
  obtain ⟨s, s', h1, h2⟩ := isRun.isSome_mid h
  rw [← reach h1, h2]; rfl

end Mqtt5V.Proofs.TraceRd
