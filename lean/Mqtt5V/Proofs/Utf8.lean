import Mqtt5V.Model.Utf8
import Mqtt5V.Spec.Utf8
/-! Lemmas tying the UTF-8 model (port of the code) to the specification (Table 3-7).

The code and the table differ on the surrogates D800..DFFF: `pop_front_unichar` (`popFront`) decodes them and leaves it to the
character rule to reject them (`charRule` puts them in class 2), while `Spec.Utf8.decodeOne` has no sequence for them.
`rejectSurrogate` is the bridge: `decodeOne = rejectSurrogate ∘ popFront` (`decodeOne_eq_popFront`), and the loop lemma
`validateLoop_zero_iff` asks its condition to agree with the specification's predicate only off the surrogates. -/
namespace Mqtt5V.Proofs.Utf8
open Mqtt5V Model.Utf8 Spec.Utf8

theorem mask_low16 (c : Nat) : ((c &&& 65534) != 65534) = decide (c % 65536 < 65534) := by
  -- 65534 = 2 * (2 ^ 15 - 1): the mask clears bit 0 and keeps bits 1..15
  have hdiv : (c &&& 65534) / 2 = c / 2 % 2 ^ 15 := by
    rw [Nat.and_div_two]; exact Nat.and_two_pow_sub_one_eq_mod (c / 2) 15
  have hmod : (c &&& 65534) % 2 ≠ 1 := fun h => absurd (Nat.and_mod_two_eq_one.mp h).2 (by decide)
  rw [Bool.eq_iff_iff, bne_iff_ne, decide_eq_true_iff]
  omega

theorem ite_ite_none {α} {P Q : Prop} [Decidable P] [Decidable Q] (a : Option α) :
    (if P then (if Q then a else none) else none) = (if P ∧ Q then a else none) := by
  by_cases hp : P <;> by_cases hq : Q <;> simp [hp, hq]

def isSurrogate (c : Nat) : Bool := 0xD800 ≤ c && c ≤ 0xDFFF

def rejectSurrogate (o : Option (Nat × List Nat)) : Option (Nat × List Nat) :=
  match o with
  | some (c, r) => if isSurrogate c then none else some (c, r)
  | none => none

/-- the surrogate test comes out as inequalities between literals, not as `isSurrogate c`: that is how `two_bytes` .. `four_bytes` have it -/
theorem rejectSurrogate_ite {P : Prop} [Decidable P] (c : Nat) (r : List Nat) :
    rejectSurrogate (if P then some (c, r) else none) =
      if P ∧ ¬ (55296 ≤ c ∧ c ≤ 57343) then some (c, r) else none := by
  by_cases hp : P <;> by_cases hs : (55296 ≤ c ∧ c ≤ 57343) <;> simp [rejectSurrogate, isSurrogate, hp, hs] <;> omega

@[simp] theorem rejectSurrogate_none : rejectSurrogate none = none := rfl

theorem inRange_iff {lo hi b : Nat} : inRange lo hi b = true ↔ lo ≤ b ∧ b ≤ hi := by
  simp [inRange]

theorem isCont_iff {b : Nat} : isCont b = true ↔ 128 ≤ b ∧ b < 192 := by
  simp [isCont]

theorem inRange_cont {b : Nat} : inRange 0x80 0xBF b = isCont b := by
  rw [Bool.eq_iff_iff, inRange_iff, isCont_iff]
  omega

/-- the second byte where Table 3-7 restricts it: a continuation byte, bounded below after the first lead byte of the class (`P`)
and above after one other (`Q`) -/
theorem second_byte {P Q : Prop} [Decidable P] [Decidable Q] {x y b : Nat} (hx : 128 ≤ x) (hy : y ≤ 191) :
    inRange (if P then x else 0x80) (if Q then y else 0xBF) b = true ↔ (P → x ≤ b) ∧ (Q → b ≤ y) ∧ isCont b = true := by
  rw [inRange_iff, ← inRange_cont, inRange_iff]
  by_cases hp : P <;> by_cases hq : Q <;> simp only [hp, hq, if_true, if_false, true_imp_iff, false_imp_iff, true_and] <;> omega

/-- a byte of the block `[lo, lo + m)`, `lo` a multiple of `m`, is `lo + p` with a payload `p < m`: the table takes `p` from it
by subtracting `lo`, the code by `b & (m - 1)`, which is the `%` -/
theorem payload {b lo : Nat} (m : Nat) (hk : lo % m = 0) (h : lo ≤ b ∧ b < lo + m) :
    ∃ p, p < m ∧ b = lo + p ∧ (lo + p) % m = p := by
  obtain ⟨p, rfl⟩ := Nat.exists_eq_add_of_le h.1
  have hp : p < m := Nat.lt_of_add_lt_add_left h.2
  exact ⟨p, hp, rfl, by rw [Nat.add_mod, hk, Nat.zero_add, Nat.mod_mod, Nat.mod_eq_of_lt hp]⟩

theorem cont_payload {b : Nat} (h : isCont b = true) : ∃ p, p < 64 ∧ b = 128 + p ∧ (128 + p) % 64 = p :=
  payload 64 rfl (isCont_iff.mp h)

/-- the lead-byte classes of the code (`n = s[0] & 0xF0`, and `(s[0] & 0x08) == 0` besides `n == 0xF0` for the four-byte form) as ranges -/
theorem lead2_iff {b : Nat} : (b / 16 * 16 = 0xC0 ∨ b / 16 * 16 = 0xD0) ↔ 192 ≤ b ∧ b < 224 := by omega
theorem lead3_iff {b : Nat} : b / 16 * 16 = 0xE0 ↔ 224 ≤ b ∧ b < 240 := by omega
theorem lead4_iff {b : Nat} : (b / 16 * 16 = 0xF0 ∧ b % 16 < 8) ↔ 240 ≤ b ∧ b < 248 := by omega

/-- Table 3-7 and the code on one lead class of the code (here and in the next two), each byte written as block + payload and the
code point as the payloads concatenated: what the table asks of the lead byte and the second byte (left) is that the code
point is in shortest form and at most 0x10FFFF, which the code tests, and no surrogate (right) -/
theorem two_bytes {p0 p1 c : Nat} (h0 : p0 < 32) (h1 : p1 < 64) (hc : c = p0 * 64 + p1) :
    0xC2 ≤ 192 + p0 ∧ 192 + p0 ≤ 0xDF ↔ 0x80 ≤ c ∧ ¬ (0xD800 ≤ c ∧ c ≤ 0xDFFF) := by omega

theorem three_bytes {p0 p1 p2 c : Nat} (h0 : p0 < 16) (h1 : p1 < 64) (h2 : p2 < 64) (hc : c = p0 * 4096 + p1 * 64 + p2) :
    (224 + p0 = 0xE0 → 0xA0 ≤ 128 + p1) ∧ (224 + p0 = 0xED → 128 + p1 ≤ 0x9F) ↔
      0x800 ≤ c ∧ ¬ (0xD800 ≤ c ∧ c ≤ 0xDFFF) := by omega

theorem four_bytes {p0 p1 p2 p3 c : Nat} (h0 : p0 < 8) (h1 : p1 < 64) (h2 : p2 < 64) (h3 : p3 < 64)
    (hc : c = p0 * 262144 + p1 * 4096 + p2 * 64 + p3) :
    (0xF0 ≤ 240 + p0 ∧ 240 + p0 ≤ 0xF4) ∧ (240 + p0 = 0xF0 → 0x90 ≤ 128 + p1) ∧ (240 + p0 = 0xF4 → 128 + p1 ≤ 0x8F) ↔
      (0x10000 ≤ c ∧ c ≤ 0x10FFFF) ∧ ¬ (0xD800 ≤ c ∧ c ≤ 0xDFFF) := by omega

/-- the model's decoder against Table 3-7, by the code's own lead-byte classes.  In each class both sides give nothing unless
the bytes after the lead are continuation bytes; where they are, every byte is block + payload, both sides compute the same
code point from the payloads, and their conditions are the two sides of `two_bytes` .. `four_bytes` -/
theorem decodeOne_eq_popFront (bs : List Nat) : decodeOne bs = rejectSurrogate (popFront bs) := by
  match bs with
  | [] => rfl
  | b0 :: r =>
    unfold decodeOne popFront
    simp only [lead2_iff, lead3_iff, lead4_iff, inRange_iff (b := b0), inRange_cont, Bool.and_eq_true]
    by_cases h1 : b0 < 128
    · rw [if_pos h1, if_pos (show b0 ≤ 127 by omega)]
      exact (if_neg (by simp [isSurrogate]; omega)).symm
    rw [if_neg h1, if_neg (show ¬ b0 ≤ 127 by omega)]
    by_cases h2 : 192 ≤ b0 ∧ b0 < 224
    · rw [if_pos h2, if_neg (show ¬ (224 ≤ b0 ∧ b0 ≤ 239) by omega), if_neg (show ¬ (240 ≤ b0 ∧ b0 ≤ 244) by omega)]
      match r with
      | [] => exact ite_self _
      | b1 :: r1 =>
        by_cases hc : isCont b1 = true
        · obtain ⟨p0, hp0, rfl, m0⟩ := payload 32 rfl h2
          obtain ⟨p1, hp1, rfl, m1⟩ := cont_payload hc
          simp only [hc, if_true, rejectSurrogate_ite, m0, m1, Nat.add_sub_cancel_left]
          exact ite_cond_congr (propext (two_bytes hp0 hp1 rfl))
        · simp only [hc, Bool.false_eq_true, if_false, ite_self, rejectSurrogate_none]
    rw [if_neg h2, if_neg (show ¬ (194 ≤ b0 ∧ b0 ≤ 223) by omega)]
    by_cases h3 : 224 ≤ b0 ∧ b0 < 240
    · rw [if_pos h3, if_pos (show 224 ≤ b0 ∧ b0 ≤ 239 by omega)]
      match r with
      | [] | [_] => rfl
      | b1 :: b2 :: r2 =>
        -- `and_assoc`: the table's condition ends in the code's continuation test `hc` as it stands
        simp only [second_byte, Nat.reduceLeDiff, and_assoc]
        by_cases hc : isCont b1 = true ∧ isCont b2 = true
        · obtain ⟨p0, hp0, rfl, m0⟩ := payload 16 rfl h3
          obtain ⟨p1, hp1, rfl, m1⟩ := cont_payload hc.1
          obtain ⟨p2, hp2, rfl, m2⟩ := cont_payload hc.2
          simp only [hc, and_true, if_true, rejectSurrogate_ite, m0, m1, m2, Nat.add_sub_cancel_left]
          exact ite_cond_congr (propext (three_bytes hp0 hp1 hp2 rfl))
        · simp only [hc, and_false, if_false, rejectSurrogate_none]
    rw [if_neg h3, if_neg (show ¬ (224 ≤ b0 ∧ b0 ≤ 239) by omega)]
    by_cases h4 : 240 ≤ b0 ∧ b0 < 248
    · rw [if_pos h4]
      match r with
      | [] | [_] | [_, _] => exact ite_self _
      | b1 :: b2 :: b3 :: r3 =>
        simp only [second_byte, Nat.reduceLeDiff, and_assoc]
        by_cases hc : isCont b1 = true ∧ isCont b2 = true ∧ isCont b3 = true
        · obtain ⟨p0, hp0, rfl, m0⟩ := payload 8 rfl h4
          obtain ⟨p1, hp1, rfl, m1⟩ := cont_payload hc.1
          obtain ⟨p2, hp2, rfl, m2⟩ := cont_payload hc.2.1
          obtain ⟨p3, hp3, rfl, m3⟩ := cont_payload hc.2.2
          simp only [hc, and_true, if_true, ite_ite_none, rejectSurrogate_ite, m0, m1, m2, m3, Nat.add_sub_cancel_left]
          exact ite_cond_congr (propext (four_bytes hp0 hp1 hp2 hp3 rfl))
        · simp only [hc, and_false, if_false, ite_self, rejectSurrogate_none]
    rw [if_neg h4, if_neg (show ¬ (240 ≤ b0 ∧ b0 ≤ 244) by omega)]
    rfl

open Gen.Utf8Rule in
theorem charRule_spec (c : Nat) :
    charRule c = if isWildcard c then 1 else if allowed c && !isSurrogate c then 0 else 2 := by
  unfold charRule
  rw [mask_low16]
  refine ite_congr (by simp [isWildcard]) (fun _ => rfl) fun _ => ite_cond_congr (propext ?_)
  simp only [allowed, isSurrogate, inRange, Bool.and_eq_true, Bool.or_eq_true, Bool.not_eq_true', decide_eq_true_eq,
    Bool.and_eq_false_iff, decide_eq_false_iff_not]
  omega

theorem decode_nil : decode [] = some [] := by
  rw [decode]; rfl

theorem decode_cons {bs : List Nat} (hne : bs ≠ []) :
    decode bs = (decodeOne bs).bind fun p => (decode p.2).map (p.1 :: ·) := by
  rw [decode, if_neg (by simpa using hne)]
  split <;> rename_i h <;> rw [h] <;> rfl

open Gen.Utf8Rule

theorem decode_of_popFront_none {bs : List Nat} (hne : bs ≠ []) (h : popFront bs = none) : decode bs = none := by
  rw [decode_cons hne, decodeOne_eq_popFront, h]; rfl

theorem decode_of_popFront {bs : List Nat} {c : Nat} {r : List Nat} (hne : bs ≠ []) (h : popFront bs = some (c, r)) :
    decode bs = if isSurrogate c then none else (decode r).map (c :: ·) := by
  rw [decode_cons hne, decodeOne_eq_popFront, h]
  cases hs : isSurrogate c <;> simp [rejectSurrogate, hs]

theorem exists_map_cons {P : Nat → Prop} {o : Option (List Nat)} {c : Nat} :
    (∃ cps, o.map (c :: ·) = some cps ∧ ∀ x ∈ cps, P x) ↔ P c ∧ ∃ cps, o = some cps ∧ ∀ x ∈ cps, P x := by
  cases o with
  | none => simp
  | some l => simp

theorem charRule_surrogate {c : Nat} (h : isSurrogate c = true) : charRule c = 2 := by
  have hw : isWildcard c = false := by
    simp only [isSurrogate, Bool.and_eq_true, decide_eq_true_eq] at h
    simp [isWildcard]; omega
  simp [charRule_spec, hw, h]

/-- `P` has to agree with the condition only off the surrogates (see the head of the file) -/
theorem validateLoop_zero_iff (cond : Nat → Bool) (P : Nat → Prop) (h0 : cond 0 = true) (h2 : cond 2 = false)
    (hP : ∀ c, isSurrogate c = false → (cond (charRule c) = true ↔ P c)) (bs : List Nat) :
    validateLoop cond bs = 0 ↔ ∃ cps, decode bs = some cps ∧ ∀ c ∈ cps, P c := by
  fun_induction validateLoop cond bs with
  | case1 bs he =>
    rw [List.isEmpty_iff.mp he, decode_nil]
    simp
  | case2 bs he hp =>
    rw [decode_of_popFront_none (by simpa using he) hp]
    simp
  | case3 bs he c r hp res hc ih =>
    have hs : isSurrogate c = false := by
      cases hs : isSurrogate c with
      | false => rfl
      | true => rw [show res = 2 from charRule_surrogate hs, h2] at hc; cases hc
    rw [decode_of_popFront (by simpa using he) hp, hs, if_neg Bool.false_ne_true, exists_map_cons, ih]
    exact (and_iff_right ((hP c hs).mp hc)).symm
  | case4 bs he c r hp res hc =>
    rw [decode_of_popFront (by simpa using he) hp]
    constructor
    · intro hres
      rw [show res = 0 from hres, h0] at hc
      exact absurd rfl hc
    · rintro ⟨cps, h, hall⟩
      cases hs : isSurrogate c with
      | true => simp [hs] at h
      | false =>
        rw [hs, if_neg Bool.false_ne_true] at h
        exact absurd ((hP c hs).mpr (exists_map_cons.mp ⟨cps, h, hall⟩).1) hc

/-- what the loop can return: accept, reject, or `has_wildcard_character` when the condition rejects that class -/
theorem validateLoop_verdict (cond : Nat → Bool) (bs : List Nat) :
    validateLoop cond bs = 0 ∨ validateLoop cond bs = 2 ∨ validateLoop cond bs = 1 ∧ cond 1 = false := by
  fun_induction validateLoop cond bs with
  | case1 => exact .inl rfl
  | case2 => exact .inr (.inl rfl)
  | case3 _ _ _ _ _ _ _ ih => exact ih
  | case4 bs he c r hp res hc =>
    rw [show res = charRule c from rfl, charRule_spec] at hc ⊢
    split
    · rename_i hw
      rw [if_pos hw] at hc
      exact .inr (.inr ⟨rfl, by simpa using hc⟩)
    · split
      · exact .inl rfl
      · exact .inr (.inl rfl)

theorem validateImpl_zero_iff (sizeOk cond : Nat → Bool) (P : Nat → Prop) (h0 : cond 0 = true) (h2 : cond 2 = false)
    (hP : ∀ c, isSurrogate c = false → (cond (charRule c) = true ↔ P c)) (bs : List Nat) :
    validateImpl sizeOk cond bs = 0 ↔ sizeOk bs.length = true ∧ ∃ cps, decode bs = some cps ∧ ∀ c ∈ cps, P c := by
  unfold validateImpl
  cases sizeOk bs.length
  · simp
  · simpa using validateLoop_zero_iff cond P h0 h2 hP bs

theorem allowed_of_wildcard {c : Nat} (h : isWildcard c = true) : allowed c = true := by
  simp only [isWildcard, Bool.or_eq_true, decide_eq_true_eq] at h
  rcases h with rfl | rfl <;> decide

theorem isUtf8_charRule (c : Nat) (hs : isSurrogate c = false) : isUtf8 (charRule c) = true ↔ allowed c = true := by
  rw [charRule_spec, hs]
  cases hw : isWildcard c
  · cases allowed c <;> decide
  · simp [allowed_of_wildcard hw, isUtf8]

theorem isUtf8NoWildcard_charRule (c : Nat) (hs : isSurrogate c = false) :
    isUtf8NoWildcard (charRule c) = true ↔ allowed c = true ∧ isWildcard c = false := by
  rw [charRule_spec, hs]
  cases isWildcard c <;> cases allowed c <;> decide

end Mqtt5V.Proofs.Utf8
