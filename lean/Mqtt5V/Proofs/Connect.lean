import Mqtt5V.Model.Connect
/-! The retry loop and the back-off of the connection-establishment model (C10).  The retry loop is read one round at a
time (`run_cons`): the pause if the list wrapped, the resolve, the attempts on the host's endpoints, and the rest only if none succeeded. -/
namespace Mqtt5V.Proofs.Connect
open Mqtt5V.Wire Mqtt5V.Gen.Timing Mqtt5V.Model Mqtt5V.Model.Connect

def pausesOf : List Act → List Nat
  | [] => []
  | .pause e :: r => e :: pausesOf r
  | _ :: r => pausesOf r

def resolvesOf : List Act → List Nat
  | [] => []
  | .resolve i :: r => i :: resolvesOf r
  | _ :: r => resolvesOf r

def isEstablished : Act → Bool
  | .established _ _ => true
  | _ => false

def Outcome.succeeds : Outcome → Bool
  | .resolveFail => false
  | .eps l => l.any id

/-- the exponents a fresh generator at `e` hands out: `e`, `e + 1`, …, each capped at `backoffMaxExp` -/
def expected (e : Nat) : Nat → List Nat
  | 0 => []
  | k + 1 => min e backoffMaxExp :: expected (e + 1) k

theorem backoffStep_fst (cur : Nat) : (backoffStep cur).1 = min cur backoffMaxExp := by
  unfold backoffStep; split <;> simp <;> omega

theorem backoff_exponent_bounded (cur : Nat) : (backoffStep cur).1 ≤ backoffMaxExp := by
  rw [backoffStep_fst]; omega

theorem expected_saturated {e e' : Nat} (h : backoffMaxExp ≤ e) (h' : backoffMaxExp ≤ e') (k : Nat) : expected e k = expected e' k := by
  induction k generalizing e e' with
  | zero => rfl
  | succ k ih =>
    simp only [expected]
    rw [ih (Nat.le_succ_of_le h) (Nat.le_succ_of_le h'), Nat.min_eq_right h, Nat.min_eq_right h']

theorem expected_step (cur k : Nat) : expected (backoffStep cur).2 k = expected (cur + 1) k := by
  unfold backoffStep
  split
  · rfl
  · exact expected_saturated (by omega) (by omega) k

theorem expected_length (e k : Nat) : (expected e k).length = k := by
  induction k generalizing e with
  | zero => rfl
  | succ k ih => simp [expected, ih]

theorem pausesOf_append (a b : List Act) : pausesOf (a ++ b) = pausesOf a ++ pausesOf b := by
  induction a with
  | nil => rfl
  | cons x r ih => cases x <;> simp [pausesOf, ih]

theorem resolvesOf_append (a b : List Act) : resolvesOf (a ++ b) = resolvesOf a ++ resolvesOf b := by
  induction a with
  | nil => rfl
  | cons x r ih => cases x <;> simp [resolvesOf, ih]

theorem tryEps_ok (host j : Nat) (l : List Bool) : (tryEps host j l).2 = l.any id := by
  induction l generalizing j with
  | nil => rfl
  | cons b r ih => cases b <;> simp [tryEps, ih]

theorem tryEps_pauses (host j : Nat) (l : List Bool) : pausesOf (tryEps host j l).1 = [] := by
  induction l generalizing j with
  | nil => rfl
  | cons b r ih => cases b <;> simp [tryEps, pausesOf, ih]

theorem tryEps_resolves (host j : Nat) (l : List Bool) : resolvesOf (tryEps host j l).1 = [] := by
  induction l generalizing j with
  | nil => rfl
  | cons b r ih => cases b <;> simp [tryEps, resolvesOf, ih]

theorem tryEps_established (host j : Nat) (l : List Bool) :
    (tryEps host j l).1.any isEstablished = (tryEps host j l).2 := by
  induction l generalizing j with
  | nil => rfl
  | cons b r ih => cases b <;> simp [tryEps, isEstablished, ih]

theorem obeys_tryEps (n host j : Nat) (l : List Bool) (rest : List Act) :
    Obeys n (host + 1) ((tryEps host j l).1 ++ (if (tryEps host j l).2 then [] else rest)) ↔
      ((tryEps host j l).2 = true ∨ Obeys n (host + 1) rest) := by
  induction l generalizing j with
  | nil => simp [tryEps]
  | cons b r ih =>
    cases b
    · simp only [tryEps, List.cons_append, Obeys, true_and]
      exact ih (j + 1)
    · simp [tryEps, Obeys]

/-- the endpoints an outcome stands for: to the retry loop a host that does not resolve is a host without endpoints -/
def results : Outcome → List Bool
  | .resolveFail => []
  | .eps l => l

theorem tryEps_results (h : Nat) (o : Outcome) : (tryEps h 0 (results o)).2 = Outcome.succeeds o := by
  cases o with
  | resolveFail => rfl
  | eps l => exact tryEps_ok h 0 l

/-- one round of `reconnect_op` in state `s`: `host` is the broker it turns to (the first one again when the list wrapped), `pre` the
back-off pause taken before in that case, `next` the state it goes on with; `round` is what it writes on outcome `o`: the pause, the
resolve, the attempts on the host's endpoints -/
def host (n : Nat) (s : St) : Nat := if s.pos ≥ n then 0 else s.pos
def pre (n : Nat) (s : St) : List Act := if s.pos ≥ n then [.pause (backoffStep s.exp).1] else []
def next (n : Nat) (s : St) : St := ⟨host n s + 1, if s.pos ≥ n then (backoffStep s.exp).2 else s.exp⟩
def round (n : Nat) (s : St) (o : Outcome) : List Act := pre n s ++ .resolve (host n s) :: (tryEps (host n s) 0 (results o)).1

/-- the retry loop, one round at a time: the next round follows only if this one did not succeed -/
theorem run_cons {n : Nat} (hn : n ≠ 0) (s : St) (o : Outcome) (os : List Outcome) :
    (run n s (o :: os)).1 = round n s o ++ if Outcome.succeeds o then [] else (run n (next n s) os).1 := by
  rw [← tryEps_results (host n s)]
  cases o with
  | resolveFail => simp [run, hn, round, pre, host, next, results, tryEps]
  | eps l =>
    simp only [run, hn, if_false, results, round, pre, host, next]
    by_cases h : (tryEps (if s.pos ≥ n then 0 else s.pos) 0 l).2 = true <;> simp [h]

theorem round_pauses (n : Nat) (s : St) (o : Outcome) : pausesOf (round n s o) = pausesOf (pre n s) := by
  simp [round, pausesOf_append, pausesOf, tryEps_pauses]

theorem round_established (n : Nat) (s : St) (o : Outcome) : (round n s o).any isEstablished = Outcome.succeeds o := by
  have hpre : (pre n s).any isEstablished = false := by unfold pre; split <;> rfl
  simp [round, hpre, isEstablished, tryEps_established, tryEps_results]

/-- a round obeys the rotation rule from whatever position: at or beyond the end of the list it pauses and takes the first broker, else the
next one without a pause; what follows it has to obey from `next` -/
theorem obeys_round (n : Nat) (s : St) (o : Outcome) (rest : List Act) :
    Obeys n s.pos (round n s o ++ if Outcome.succeeds o then [] else rest) ↔ (Outcome.succeeds o = true ∨ Obeys n (next n s).pos rest) := by
  have head : ∀ r, Obeys n s.pos (pre n s ++ .resolve (host n s) :: r) ↔ Obeys n (host n s + 1) r := by
    intro r
    by_cases hw : s.pos ≥ n
    · simp [pre, host, hw, Obeys, backoff_exponent_bounded]
    · simp [pre, host, hw, Obeys]; omega
  rw [← tryEps_results (host n s), round, List.append_assoc, List.cons_append, head, obeys_tryEps]
  rfl

/-- from whatever position: one beyond the end of the list is a wrap like any other -/
theorem run_obeys {n : Nat} (hn : n ≠ 0) (os : List Outcome) : ∀ s : St, Obeys n s.pos (run n s os).1 := by
  induction os with
  | nil => intro s; simp [run, Obeys]
  | cons o os ih =>
    intro s
    rw [run_cons hn, obeys_round]
    exact Or.inr (ih _)

theorem pauses_expected (n : Nat) (os : List Outcome) : ∀ s : St, ∃ k, pausesOf (run n s os).1 = expected s.exp k := by
  induction os with
  | nil => exact fun s => ⟨0, rfl⟩
  | cons o os ih =>
    intro s
    by_cases hn : n = 0
    · exact ⟨0, by simp [run, hn, pausesOf, expected]⟩
    obtain ⟨k, hk⟩ : ∃ k, pausesOf (if Outcome.succeeds o then [] else (run n (next n s) os).1) = expected (next n s).exp k := by
      split
      · exact ⟨0, rfl⟩
      · exact ih _
    rw [run_cons hn, pausesOf_append, round_pauses, hk]
    by_cases hw : s.pos ≥ n
    · exact ⟨k + 1, by simp [pre, next, hw, pausesOf, expected, backoffStep_fst, expected_step]⟩
    · exact ⟨k, by simp [pre, next, hw, pausesOf]⟩

end Mqtt5V.Proofs.Connect
