import Mqtt5V.Model.Sender
/-! Lemmas about the sender model: the throttled split, the batch `do_write` picks (`pick`), the token (quota) invariant. -/
namespace Mqtt5V.Proofs.Sender
open Mqtt5V.Model.Sender

def nThr (l : List SReq) : Nat := (l.filter (·.throttled)).length

@[simp] theorem nThr_nil : nThr [] = 0 := rfl
@[simp] theorem nThr_cons (r : SReq) (l : List SReq) : nThr (r :: l) = (if r.throttled then 1 else 0) + nThr l := by
  by_cases h : r.throttled <;> simp [nThr, h] <;> omega
@[simp] theorem nThr_append (a b : List SReq) : nThr (a ++ b) = nThr a + nThr b := by simp [nThr]

theorem split_quota (q : List SReq) (k : Nat) : (split q k).2.2 + nThr (split q k).1 = k := by
  fun_induction split q k with
  | case1 k => rfl
  | case2 r rs k ht t ih =>
    -- `t` is the `let` of `split`'s body; `ih` speaks of `split rs k`: the same term, restated so that `simp` / `omega` see it
    replace ih : t.2.2 + nThr t.1 = k := ih
    have ht' : r.throttled = false := by simpa using ht
    simpa [ht'] using ih
  | case3 r rs k ht hk t ih =>
    replace ih : t.2.2 + nThr t.1 = k - 1 := ih
    have ht' : r.throttled = true := by simpa using ht
    simp only [nThr_cons, ht', if_true]
    omega
  | case4 r rs k ht hk t ih => exact ih

theorem split_batch_sublist (q : List SReq) (k : Nat) : (split q k).1.Sublist q := by
  fun_induction split q k with
  | case1 k => exact .slnil
  | case2 r rs k ht t ih => exact ih.cons_cons r
  | case3 r rs k ht hk t ih => exact ih.cons_cons r
  | case4 r rs k ht hk t ih => exact ih.cons r

theorem split_rest_sublist (q : List SReq) (k : Nat) : (split q k).2.1.Sublist q := by
  fun_induction split q k with
  | case1 k => exact .slnil
  | case2 r rs k ht t ih => exact ih.cons r
  | case3 r rs k ht hk t ih => exact ih.cons r
  | case4 r rs k ht hk t ih => exact ih.cons_cons r

/-- what stays behind is throttled, and if anything stays behind the quota is exhausted -/
theorem split_rest (q : List SReq) (k : Nat) :
    (∀ r ∈ (split q k).2.1, r.throttled = true) ∧ ((split q k).2.1 ≠ [] → (split q k).2.2 = 0) := by
  fun_induction split q k with
  | case1 k => simp
  | case2 r rs k ht t ih => exact ih
  | case3 r rs k ht hk t ih => exact ih
  | case4 r rs k ht hk t ih =>
    have hk0 : k = 0 := by omega
    have hq : t.2.2 + nThr t.1 = k := split_quota rs k
    refine ⟨?_, fun _ => by show t.2.2 = 0; omega⟩
    intro x hx
    rcases List.mem_cons.mp hx with rfl | hx
    · simpa using ht
    · exact ih.1 x hx

theorem split_perm (q : List SReq) (k : Nat) : ((split q k).1 ++ (split q k).2.1).Perm q := by
  fun_induction split q k with
  | case1 k => exact .nil
  | case2 r rs k ht t ih => exact ih.cons r
  | case3 r rs k ht hk t ih => exact ih.cons r
  | case4 r rs k ht hk t ih => exact List.perm_middle.trans (ih.cons r)

theorem split_nil {q : List SReq} {k : Nat} (h : (split q k).1 = []) (hq : q ≠ []) : k = 0 ∧ ∀ r ∈ q, r.throttled = true := by
  have hperm := split_perm q k
  have hquota := split_quota q k
  rw [h] at hperm hquota
  have hne : (split q k).2.1 ≠ [] := fun he => hq (by simpa [he] using hperm.symm)
  exact ⟨by simpa [(split_rest q k).2 hne] using hquota.symm, fun r hr => (split_rest q k).1 r (hperm.symm.subset hr)⟩

/-- the token invariant: on a throttling connection, quota plus the throttled requests that were handed to the
stream since the last resend and whose reply is outstanding never exceeds the limit (uint16 never wraps) -/
def TokInv (s : S) : Prop :=
  s.limit ≠ MAX_LIMIT → s.quota + nThr (s.inflight.getD []) + nThr s.unanswered ≤ s.limit ∧ s.limit < MAX_LIMIT

/-- requests as the client builds them: the terminal flag is only used by DISCONNECT, never together with throttled -/
def ReqWF (r : SReq) : Prop := r.terminal = true → r.throttled = false

/-- all that `do_write` needs of the queue (`pick_quota`: a terminal batch costs no quota) -/
def QueueWF (s : S) : Prop := ∀ r ∈ s.queue, ReqWF r

/-- the batch `do_write` forms when the stream is free: (batch, what stays queued, quota left).
A terminal request goes alone and first; without a Receive Maximum the whole queue goes; else the throttled split. -/
def pick (s : S) : List SReq × List SReq × Nat :=
  match s.queue.find? (·.terminal) with
  | some t => ([t], s.queue.erase t, s.quota)
  | none => if s.limit = MAX_LIMIT then (s.queue, [], s.quota) else split s.queue s.quota

/-- everything below that speaks of `doWrite` rests on this equation: `rw [doWrite_eq]; split` gives the case where the batch `(pick s).1`
left, with `pick_*` for what it holds, and the case where nothing moved -/
theorem doWrite_eq (s : S) :
    doWrite s = if s.inflight = none ∧ (pick s).1 ≠ []
      then ({ s with queue := (pick s).2.1, inflight := some (pick s).1, quota := (pick s).2.2 }, [.wr ((pick s).1.map (·.id))])
      else (s, []) := by
  unfold doWrite pick
  cases s.inflight with
  | some b => simp
  | none =>
    cases hf : s.queue.find? (·.terminal) with
    | some t =>
      have hne : s.queue.isEmpty = false := by cases hq : s.queue <;> simp_all
      simp [hne]
    | none =>
      cases hq : s.queue with
      | nil => simp [split]
      | cons r rs => by_cases hl : s.limit = MAX_LIMIT <;> simp [hl]

theorem pick_partition (s : S) :
    (pick s).1.Sublist s.queue ∧ (pick s).2.1.Sublist s.queue ∧ ((pick s).1 ++ (pick s).2.1).Perm s.queue := by
  unfold pick
  split
  · rename_i t ht
    have hm := List.mem_of_find?_eq_some ht
    exact ⟨List.singleton_sublist.mpr hm, List.erase_sublist, (List.perm_cons_erase hm).symm⟩
  · split
    · exact ⟨.refl _, List.nil_sublist _, by simp⟩
    · exact ⟨split_batch_sublist _ _, split_rest_sublist _ _, split_perm _ _⟩

theorem pick_quota (s : S) (hq : QueueWF s) (hl : s.limit ≠ MAX_LIMIT) : (pick s).2.2 + nThr (pick s).1 = s.quota := by
  unfold pick
  split
  · rename_i t ht
    -- a terminal request is not throttled: it costs no quota
    have h0 : t.throttled = false := hq t (List.mem_of_find?_eq_some ht) (by simpa using List.find?_some ht)
    simp [h0]
  · rw [if_neg hl]
    exact split_quota _ _

theorem pick_terminal {s : S} {t : SReq} (ht : s.queue.find? (·.terminal) = some t) : pick s = ([t], s.queue.erase t, s.quota) := by
  unfold pick
  rw [ht]

theorem pick_nil {s : S} (h : (pick s).1 = []) :
    s.queue = [] ∨ (s.limit ≠ MAX_LIMIT ∧ s.quota = 0 ∧ ∀ r ∈ s.queue, r.throttled = true ∧ r.terminal = false) := by
  unfold pick at h
  split at h
  · cases h
  · rename_i hf
    split at h
    · exact .inl h
    · rename_i hl
      by_cases hq : s.queue = []
      · exact .inl hq
      · obtain ⟨hk, ht⟩ := split_nil h hq
        exact .inr ⟨hl, hk, fun r hr => ⟨ht r hr, by simpa using List.find?_eq_none.mp hf r hr⟩⟩

theorem doWrite_qwf (s : S) (hq : QueueWF s) : QueueWF (doWrite s).1 := by
  rw [doWrite_eq]
  split
  · exact fun r hr => hq r ((pick_partition s).2.1.subset hr)
  · exact hq

theorem doWrite_other (s : S) : (doWrite s).1.unanswered = s.unanswered ∧ (doWrite s).1.limit = s.limit ∧ (doWrite s).1.rm = s.rm := by
  rw [doWrite_eq]
  split <;> exact ⟨rfl, rfl, rfl⟩

theorem doWrite_events (s : S) : ∀ e ∈ (doWrite s).2, ∃ ids, e = .wr ids := by
  rw [doWrite_eq]
  split
  · exact fun e he => ⟨_, List.mem_singleton.mp he⟩
  · exact fun e he => nomatch he

theorem resend_events (s : S) : ∀ e ∈ (resend s).2, ∃ ids, e = .wr ids := by
  unfold resend
  split
  · exact fun e he => nomatch he
  · exact doWrite_events _

/-- what the token count needs on top of `ReqWF`: a throttled request awaits a reply, so once written it is counted in
`unanswered` until its reply returns the token (`step` on `.send` sets `awaits` accordingly) -/
def ReqOK (r : SReq) : Prop := ReqWF r ∧ (r.throttled = true → r.awaits = true)

/-- everything the sender holds is a request as the client builds them; the stored Receive Maximum fits uint16 -/
def AllOK (s : S) : Prop :=
  (∀ r ∈ s.queue, ReqOK r) ∧ (∀ r ∈ s.inflight.getD [], ReqOK r) ∧ (∀ r ∈ s.unanswered, ReqOK r) ∧ (∀ n, s.rm = some n → n ≤ 65535)

/-- the invariant of every reachable sender state (`step_inv`); `AllOK` is there only because `TokInv` does not survive without it -/
def Inv (s : S) : Prop := TokInv s ∧ AllOK s

theorem inv_init : Inv {} := by
  refine ⟨fun h => absurd rfl h, ?_⟩
  simp [AllOK]

theorem TokInv.mono {s s' : S} (h : TokInv s) (hl : s'.limit = s.limit)
    (hle : s'.quota + nThr (s'.inflight.getD []) + nThr s'.unanswered ≤ s.quota + nThr (s.inflight.getD []) + nThr s.unanswered) :
    TokInv s' := by
  intro hl'
  rw [hl] at hl' ⊢
  have := h hl'
  omega

theorem doWrite_inv (s : S) (h : Inv s) : Inv (doWrite s).1 := by
  rw [doWrite_eq]
  split
  next hc =>
    obtain ⟨ht, hq, hi, hu, hr⟩ := h
    refine ⟨?_, fun r hr' => hq r ((pick_partition s).2.1.subset hr'), fun r hr' => hq r ((pick_partition s).1.subset hr'), hu, hr⟩
    intro hl
    have h1 := pick_quota s (fun r hr => (hq r hr).1) hl
    have h2 := ht hl
    simp only [hc.1, Option.getD_none, nThr_nil, Option.getD_some] at h2 ⊢
    omega
  next => exact h

/-- requests that await no reply are not throttled -/
theorem nThr_filter_awaits (b : List SReq) (h : ∀ r ∈ b, ReqOK r) : nThr (b.filter (·.awaits)) = nThr b := by
  unfold nThr
  rw [List.filter_filter]
  congr 1
  apply List.filter_congr
  intro r hr
  cases ht : r.throttled with
  | false => rfl
  | true => simp [(h r hr).2 ht]

theorem nThr_erase (l : List SReq) (r : SReq) (h : r ∈ l) : nThr (l.erase r) + (if r.throttled then 1 else 0) = nThr l := by
  have := ((List.perm_cons_erase h).filter (·.throttled)).length_eq
  rw [← nThr, ← nThr, nThr_cons] at this
  omega

theorem resend_free {s : S} (h : s.inflight = none) :
    resend s = doWrite { s with queue := sortReqs (s.unanswered ++ s.queue), unanswered := [],
                                limit := s.rm.getD MAX_LIMIT, quota := s.rm.getD MAX_LIMIT } := by
  simp [resend, h]

theorem step_wdone_tryAgain {s : S} {b : List SReq} (h : s.inflight = some b) :
    step s (.wdone .tryAgain) =
      doWrite { s with inflight := none, queue := sortReqs (s.unanswered ++ (b ++ s.queue)), unanswered := [],
                       limit := s.rm.getD MAX_LIMIT, quota := s.rm.getD MAX_LIMIT } := by
  simp only [step, h]
  exact resend_free rfl

theorem resend_inv (s : S) (h : Inv s) : Inv (resend s).1 := by
  cases hi : s.inflight with
  | some b => simpa [resend, hi] using h
  | none =>
    obtain ⟨ht, hq, hif, hu, hr⟩ := h
    rw [resend_free hi]
    apply doWrite_inv
    refine ⟨?_, ?_, by simp [hi], by simp, hr⟩
    · -- the new limit is a stored Receive Maximum, and nothing is on the wire of the new connection
      intro hl
      cases hrm : s.rm with
      | none => simp [hrm] at hl
      | some n =>
        have := hr n hrm
        simp only [hi, hrm, Option.getD_some, Option.getD_none, nThr_nil, MAX_LIMIT] at hl ⊢
        omega
    · intro r hr'
      simp only [sortReqs, List.mem_mergeSort, List.mem_append] at hr'
      exact hr'.elim (hu r) (hq r)

theorem step_inv (s : S) (i : In) (h : Inv s)
    (hwf : match i with | .send r => ReqWF r | .setRm (some n) => n ≤ 65535 | _ => True) : Inv (step s i).1 := by
  obtain ⟨ht, hq, hi, hu, hr⟩ := h
  cases i with
  | send r =>
    apply doWrite_inv
    refine ⟨ht, ?_, hi, hu, hr⟩
    intro x hx
    rcases List.mem_append.mp hx with hx | hx
    · exact hq x hx
    · obtain rfl := List.mem_singleton.mp hx
      exact ⟨hwf, fun h1 => by simp [show r.throttled = true from h1]⟩
  | wdone ec =>
    simp only [step]
    cases hb : s.inflight with
    | none => exact ⟨ht, hq, hi, hu, hr⟩
    | some b =>
      have hib : ∀ r ∈ b, ReqOK r := by simpa [hb] using hi
      -- the batch leaves the wire: the token sum does not grow
      have hdrop : TokInv { s with inflight := none } := ht.mono rfl (by simp [hb])
      cases ec with
      | tryAgain =>
        apply resend_inv
        refine ⟨hdrop, ?_, by simp, hu, hr⟩
        intro r hr'
        exact (List.mem_append.mp hr').elim (hib r) (hq r)
      | noRecovery => exact ⟨hdrop, hq, by simp, hu, hr⟩
      | aborted => exact ⟨hdrop, hq, by simp, hu, hr⟩
      | ok =>
        apply doWrite_inv
        refine ⟨ht.mono rfl (by simp [hb, nThr_filter_awaits b hib]; omega), hq, by simp, ?_, hr⟩
        intro r hr'
        rcases List.mem_append.mp hr' with h1 | h1
        · exact hu r h1
        · exact hib r (List.mem_filter.mp h1).1
  | ack id =>
    simp only [step]
    cases hf : s.unanswered.find? (·.id == id) with
    | none => exact ⟨ht, hq, hi, hu, hr⟩
    | some r =>
      have he := nThr_erase s.unanswered r (List.mem_of_find?_eq_some hf)
      have hu' : ∀ x ∈ s.unanswered.erase r, ReqOK x := fun x hx => hu x (List.mem_of_mem_erase hx)
      dsimp only      -- the `let s1` of `step`
      split
      next hc =>
        -- the token of an answered throttled request returns; `% 65536` can only lower the sum
        simp only [Bool.and_eq_true] at hc
        rw [if_pos hc.1] at he
        have := Nat.mod_le (s.quota + 1) 65536
        exact doWrite_inv _ ⟨ht.mono rfl (by dsimp only; omega), hq, hi, hu', hr⟩
      next => exact ⟨ht.mono rfl (by dsimp only; omega), hq, hi, hu', hr⟩
  | setRm rm =>
    refine ⟨ht, hq, hi, hu, ?_⟩
    intro n hn
    obtain rfl : rm = some n := hn
    exact hwf
  | resendRead => exact resend_inv s ⟨ht, hq, hi, hu, hr⟩
  | cancel => exact ⟨ht, by simp [step], hi, hu, hr⟩

end Mqtt5V.Proofs.Sender
