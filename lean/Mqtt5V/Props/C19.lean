import Mqtt5V.Proofs.Dec
import Mqtt5V.Proofs.Frame
/-! # C19 — hostile broker bytes never cause an access outside the received packet (decoder index arithmetic)

The decoder model works on indices into the read buffer and knows where the received packet ends; a dereference the
C++ would perform at or beyond that end is the outcome `oob`.  For *every* buffer content, every position and every
Remaining Length that lies inside the buffer, no decoder ever produces `oob`, and a successful decode ends inside the
packet.  (That the C++ dereferences exactly the indices the model computes is observed by the harness: packets in
exact-size heap blocks under ASan, and the whole client fed with mutated streams.) -/
namespace Mqtt5V.Props.C19
open Mqtt5V.Wire Mqtt5V.Model.Dec Mqtt5V.Proofs.Dec Mqtt5V.Gen.PropTable

/-- PUBACK / PUBREC / PUBREL / PUBCOMP / DISCONNECT / AUTH bodies -/
theorem rcProps_in_bounds (allowed : List Nat) (c : Ctx) (pos remain : Nat) (h : pos + remain ≤ c.realLast) :
    Good pos (pos + remain) (rcProps allowed c pos remain) :=
  good_ite (fun _ => good_ok (Nat.le_add_right _ _)) fun _ => good_whole <|
  good_bind (byte_good c pos _ h) fun _ p hp => good_map (props_good allowed c p _ h hp)

theorem connack_in_bounds (c : Ctx) (pos remain : Nat) (h : pos + remain ≤ c.realLast) :
    Good pos (pos + remain) (decodeConnack c pos remain) :=
  good_whole <| good_bind (byte_good c pos _ h) fun _ p _ =>
  good_bind (byte_good c p _ h) fun _ p1 h1 => good_map (props_good connackProps c p1 _ h h1)

/-- **no bytes are left over**: an accepted PUBACK/PUBREC/PUBREL/PUBCOMP/DISCONNECT/AUTH body was consumed to the last byte
(`remain = 0` is the short form); a body with trailing bytes after its property block is malformed -/
theorem rcProps_consumes_whole_packet (allowed : List Nat) (c : Ctx) (pos remain : Nat) (v : Nat × Props) (p : Nat)
    (h : rcProps allowed c pos remain = .ok v p) : p = pos + remain := by
  unfold rcProps at h
  split at h
  · injection h with _ h2; omega
  · exact (whole_eq_ok h).2

/-- the same for CONNACK -/
theorem connack_consumes_whole_packet (c : Ctx) (pos remain : Nat) (v : Nat × Nat × Props) (p : Nat)
    (h : decodeConnack c pos remain = .ok v p) : p = pos + remain :=
  (whole_eq_ok h).2

theorem publish_in_bounds (c : Ctx) (cb pos remain : Nat) (h : pos + remain ≤ c.realLast) :
    Good pos (pos + remain) (decodePublish c cb pos remain) :=
  good_bind (lenPrefix_good c pos _ h) fun _ p hp =>
  good_bind (good_ite (fun _ => good_map (bigWord_good c p _ h)) fun _ => good_ok hp) fun _ p1 h1 =>
  good_bind (props_good publishProps c p1 _ h h1) fun _ p2 _ => good_map (slice_good c p2 _ _ h)

theorem codes_in_bounds (allowed : List Nat) (c : Ctx) (pos remain : Nat) (h : pos + remain ≤ c.realLast) :
    Good pos (pos + remain) (decodeCodes allowed c pos remain) :=
  good_bind (props_good allowed c pos _ h (Nat.le_add_right _ _)) fun _ p _ =>
  good_ite (fun _ => trivial) fun _ => good_map (slice_good c p _ _ h)

/-- the Packet Identifier of a reply is read inside the packet provided the packet has at least two bytes — the check
`assemble_op::dispatch` now performs before calling `decode_packet_id` -/
theorem packetId_in_bounds (c : Ctx) (pos : Nat) (h : pos + 2 ≤ c.realLast) : Good pos (pos + 2) (packetId c pos) :=
  bigWord_good c pos (pos + 2) h

/-- **no decoder reads outside the received packet, for any bytes** (summary: none of the results is `oob`) -/
theorem decoders_never_read_outside (c : Ctx) (cb pos remain : Nat) (h : pos + remain ≤ c.realLast) :
    (∀ allowed, ¬ (rcProps allowed c pos remain matches .oob)) ∧ ¬ (decodeConnack c pos remain matches .oob) ∧
    ¬ (decodePublish c cb pos remain matches .oob) ∧ (∀ allowed, ¬ (decodeCodes allowed c pos remain matches .oob)) := by
  -- each decoder's result is `Good`, and `Good _ _ .oob` is `False`
  refine ⟨fun a => ?_, ?_, ?_, fun a => ?_⟩
  · have := rcProps_in_bounds a c pos remain h; cases hr : rcProps a c pos remain <;> simp_all [Good]
  · have := connack_in_bounds c pos remain h; cases hr : decodeConnack c pos remain <;> simp_all [Good]
  · have := publish_in_bounds c cb pos remain h; cases hr : decodePublish c cb pos remain <;> simp_all [Good]
  · have := codes_in_bounds a c pos remain h; cases hr : decodeCodes a c pos remain <;> simp_all [Good]

/-- why the bound check in `prop_parser` matters: with a Property Length that exceeds what is left of the packet the
parser now fails instead of walking into the bytes behind the packet (`00 7f` as PUBACK body) -/
example : (match rcProps pubackProps ⟨[0x00, 0x7F, 0x26, 0x00], 2⟩ 0 2 with | .fail => true | _ => false) = true := by decide


/-! ## frame reassembly (`assemble_op`): the packets recognised do not depend on the chunking -/
section Frame
open Mqtt5V.Model.Frame Mqtt5V.Proofs.Frame

/-- **chunking independence**: for every byte string a broker sends on a connection and any two ways of splitting it into
reads, `assemble_op` recognises the same packets in the same order, reports a malformed stream at the same packet, and is
left with the same unconsumed bytes -/
theorem recognised_packets_do_not_depend_on_chunking (max : Nat) (cs1 cs2 : List Bs) (h : cs1.flatten = cs2.flatten) :
    feedAll max (some []) cs1 = feedAll max (some []) cs2 := by
  -- the empty buffer holds no whole packet (`rfl`)
  rw [feedAll_eq_drain max cs1 [] rfl, feedAll_eq_drain max cs2 [] rfl, h]

/-- **progress (no hang)**: every packet taken off the buffer removes at least two bytes, so the parsing loop of one read
ends after at most `length / 2` packets; and the loop's result never depends on the iteration bound -/
theorem every_packet_shrinks_the_buffer (max : Nat) (buf : Bs) (cb : Nat) (body rest : Bs) (h : parseOne max buf = .packet cb body rest) :
    rest.length + 2 ≤ buf.length := parseOne_packet_shorter h

theorem loop_bound_is_never_reached (max : Nat) (buf : Bs) (fuel : Nat) (h : buf.length + 1 ≤ fuel) :
    drain max fuel buf = drainFull max buf := drain_eq_full max buf fuel h

/-- a verdict, once reached, is not revised by later bytes: a malformed header stays malformed and a recognised packet stays
the same packet whatever follows it -/
theorem verdicts_are_stable (max : Nat) (buf more : Bs) :
    (parseOne max buf = .malformed → parseOne max (buf ++ more) = .malformed) ∧
    (∀ cb body rest, parseOne max buf = .packet cb body rest → parseOne max (buf ++ more) = .packet cb body (rest ++ more)) :=
  ⟨parseOne_malformed_append more, fun _ _ _ => parseOne_packet_append more⟩

/-- a recognised packet body is at most the announced Maximum Packet Size minus its header: the reassembly buffer is never overrun -/
theorem packet_fits_receive_buffer (max : Nat) (buf : Bs) (cb : Nat) (body rest : Bs) (h : parseOne max buf = .packet cb body rest) :
    body.length ≤ max - 2 := by
  -- the length field says `v` in `u ≥ 1` bytes, `v ≤ max - (1 + u)` (`hm`), and `body` is `v` bytes cut from the buffer
  obtain ⟨r, v, u, rfl, _, _, hu, hm, _, rfl, _⟩ := parseOne_packet_inv h
  simp only [List.length_take]
  omega

/-- non-vacuity: PUBACK + PINGRESP + PUBLISH delivered whole, or in three odd pieces -/
example : feedAll 65536 (some []) [[0x40, 2, 0, 7, 0xD0, 0, 0x30, 3, 0, 1, 0x74]] =
    ([.reply 4 7 [], .msg 0x30 [0, 1, 0x74]], some []) ∧
  feedAll 65536 (some []) [[0x40], [2, 0, 7, 0xD0, 0, 0x30, 3, 0], [1, 0x74]] =
    ([.reply 4 7 [], .msg 0x30 [0, 1, 0x74]], some []) := by decide

end Frame

end Mqtt5V.Props.C19
