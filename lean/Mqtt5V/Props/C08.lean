import Mqtt5V.Proofs.Trace
import Mqtt5V.Proofs.PubSend
import Mqtt5V.Proofs.PidAlloc
/-! # C08 — packet identifiers are unique among outstanding exchanges and never zero

Refinement of the interval allocator to a set, lifted over *every* legal history (any sequence of
allocations and releases of held ids, of any length, including full exhaustion). -/
namespace Mqtt5V.Props.C08
open Mqtt5V.Model.PidAlloc Mqtt5V.Proofs.PidAlloc

/-- system invariant: representation invariant + the held ids are exactly the valid ids that are not free, without repetition -/
def SInv (s : Sys) : Prop :=
  AInv s.st ∧ s.live.Nodup ∧ ∀ p, p ∈ s.live ↔ (1 ≤ p ∧ p ≤ 65535 ∧ ¬ isFree s.st p)

theorem init_inv : SInv Sys.init := by
  refine ⟨ainv_init, by simp [Sys.init], ?_⟩
  intro p; simp [Sys.init, init, MAX_PACKET_ID]; omega

theorem alloc_out (s : Sys) : (s.step .alloc).2 = some (allocate s.st).1 := by
  simp only [Sys.step]; split <;> simp [*]

/-- **what `allocate()` returns**: the lowest identifier of 1 … 65535 that is not held, and 0 exactly when all are held -/
theorem alloc_lowest_unheld {s : Sys} (h : SInv s) {p : Nat} (hp : (s.step .alloc).2 = some p) :
    (p = 0 ∧ ∀ q, 1 ≤ q → q ≤ 65535 → q ∈ s.live) ∨
    (1 ≤ p ∧ p ≤ 65535 ∧ p ∉ s.live ∧ ∀ q, 1 ≤ q → q < p → q ∈ s.live) := by
  obtain ⟨hA, _, hM⟩ := h
  obtain rfl := Option.some.inj ((alloc_out s).symm.trans hp)
  -- `allocate_lowest`, with "free" read as "valid and not held"
  rcases (allocate_lowest hA).1 with ⟨h0, hnone⟩ | ⟨hf, hmin⟩
  · exact .inl ⟨h0, fun q h1 h2 => (hM q).mpr ⟨h1, h2, hnone q⟩⟩
  · have hb := isFree_bounds hA hf
    refine .inr ⟨hb.1, hb.2, fun hm => ((hM _).mp hm).2.2 hf, fun q h1 h2 => (hM q).mpr ⟨h1, by omega, fun hq => ?_⟩⟩
    have := hmin q hq; omega

theorem step_inv (s : Sys) (op : Op) (h : SInv s) (hl : s.legal op = true) : SInv (s.step op).1 := by
  have hlow := alloc_lowest_unheld h (alloc_out s)
  obtain ⟨hA, hN, hM⟩ := h
  cases op with
  | alloc =>
    -- `hiff`: the id returned is what leaves the free set; it joins `live` unless it is 0, which is no identifier
    obtain ⟨-, hA', hiff⟩ := allocate_lowest hA
    simp only [Sys.step]
    rcases hlow with ⟨h0, _⟩ | ⟨h1, h2, hnm, _⟩
    · rw [if_pos h0]
      refine ⟨hA', hN, fun p => ?_⟩
      rw [hiff, hM, h0]
      by_cases hp : p = 0 <;> simp [hp]
    · rw [if_neg (by omega)]
      refine ⟨hA', List.nodup_cons.mpr ⟨hnm, hN⟩, fun p => ?_⟩
      rw [List.mem_cons, hiff, hM]
      by_cases hp : p = (allocate s.st).1 <;> simp [hp, h1, h2]
  | free p =>
    simp only [Sys.legal, List.contains_iff_mem] at hl
    obtain ⟨hp1, hp2, hpf⟩ := (hM p).mp hl
    obtain ⟨hA', hiff⟩ := free_spec p hp1 hp2 s.st hA hpf
    refine ⟨hA', hN.erase p, fun q => ?_⟩
    simp only [Sys.step, hN.mem_erase_iff, hiff, hM, not_or]
    rw [and_comm, and_assoc, and_assoc]

theorem isRun : Lts.IsRun (fun (s : Sys) op => if s.legal op then some (s.step op).1 else none) Sys.run :=
  ⟨fun _ => rfl, fun s op ops => by simp only [Sys.run]; split <;> rfl⟩

/-- every state reachable by a legal history (of any length) satisfies the invariant -/
theorem reachable_inv (ops : List Op) : ∀ (s s' : Sys), SInv s → s.run ops = some s' → SInv s' :=
  fun _ _ h hr => isRun.guarded SInv h step_inv hr

theorem inv {ops : List Op} {s : Sys} (hr : Sys.init.run ops = some s) : SInv s := reachable_inv ops _ _ init_inv hr

/-- **No two outstanding exchanges share an identifier, and the identifier is never 0**: after any
legal history, an allocation that succeeds returns a valid id that no outstanding exchange holds. -/
theorem alloc_fresh_nonzero (ops : List Op) (s : Sys) (hr : Sys.init.run ops = some s) :
    ∀ p, (s.step .alloc).2 = some p → p ≠ 0 → (1 ≤ p ∧ p ≤ 65535 ∧ p ∉ s.live) := by
  intro p hp hp0
  rcases alloc_lowest_unheld (inv hr) hp with ⟨hz, _⟩ | ⟨h1, h2, h3, _⟩
  · exact absurd hz hp0
  · exact ⟨h1, h2, h3⟩

/-- the ids held at any time are pairwise distinct and none of them is 0 -/
theorem live_ids_distinct_nonzero (ops : List Op) (s : Sys) (hr : Sys.init.run ops = some s) :
    s.live.Nodup ∧ ∀ p ∈ s.live, 1 ≤ p ∧ p ≤ 65535 := by
  obtain ⟨_, hnodup, hheld⟩ := inv hr
  exact ⟨hnodup, fun p hp => by obtain ⟨h1, h2, _⟩ := (hheld p).mp hp; exact ⟨h1, h2⟩⟩

/-- **pid_overrun only when all 65535 identifiers are in use**: `allocate()` returns 0 exactly
when every id 1…65535 is held. -/
theorem overrun_iff_all_in_use (ops : List Op) (s : Sys) (hr : Sys.init.run ops = some s) :
    (s.step .alloc).2 = some 0 ↔ ∀ p, 1 ≤ p → p ≤ 65535 → p ∈ s.live := by
  have hI := inv hr
  refine ⟨fun h0 => (alloc_lowest_unheld hI h0).elim And.right fun h => absurd h.1 (by omega), fun hall => ?_⟩
  rw [alloc_out]
  rcases alloc_lowest_unheld hI (alloc_out s) with ⟨hz, _⟩ | ⟨h1, h2, h3, _⟩
  · rw [hz]
  · exact absurd (hall _ h1 h2) h3

/-- … and then exactly 65535 ids are held -/
theorem overrun_count (ops : List Op) (s : Sys) (hr : Sys.init.run ops = some s)
    (h0 : (s.step .alloc).2 = some 0) : s.live.length = 65535 := by
  have hall := (overrun_iff_all_in_use ops s hr).mp h0
  obtain ⟨_, hnodup, hheld⟩ := inv hr
  have hperm : s.live.Perm (List.range' 1 65535) := by
    rw [List.perm_ext_iff_of_nodup hnodup (List.nodup_range' (step := 1) (by omega))]
    intro p
    simp only [List.mem_range'_1]
    constructor
    · intro hp; have := (hheld p).mp hp; omega
    · intro hp; exact hall p hp.1 (by omega)
  simpa using hperm.length_eq

/-- **An identifier becomes reusable only after its exchange completed**: the allocator hands out the
lowest id that no outstanding exchange holds, so an id that is still held is never returned. -/
theorem alloc_is_lowest_unused (ops : List Op) (s : Sys) (hr : Sys.init.run ops = some s) :
    ∀ p, (s.step .alloc).2 = some p → p ≠ 0 → ∀ q, 1 ≤ q → q < p → q ∈ s.live := by
  intro p hp hp0
  rcases alloc_lowest_unheld (inv hr) hp with ⟨hz, _⟩ | ⟨_, _, _, hlow⟩
  · exact absurd hz hp0
  · exact hlow

/-- non-vacuity: a concrete history with splitting and merging is legal and reaches a non-trivial state -/
example : (Sys.init.run [.alloc, .alloc, .alloc, .free 2, .alloc, .free 1, .free 3]).map (·.live) = some [2] := by
  decide


/-! ## the publish operation (`publish_send_op`, Model/PubSend.lean, tied by the H-pubsend lock-step) -/
section PubSendOp
open Mqtt5V.Model.PubSend Mqtt5V.Proofs.PubSend

/-- **the packet identifier of a publish is released exactly once, immediately before its one completion, on every path**
(success, failing acknowledgement, aborted write, cancellation during a re-send): this is rule 4 of the operation monitor
(`Proofs.PubSend.Mon.feed`), which no history violates -/
theorem publish_releases_its_identifier_exactly_once (qos2 : Bool) (is : List In) :
    (({} : Mon).feedAll qos2 (trace qos2 is)).bad = false ∧
    ((({} : Mon).feedAll qos2 (trace qos2 is)).freed = (({} : Mon).feedAll qos2 (trace qos2 is)).completed) :=
  (rel_trace qos2 is).sound

end PubSendOp

/-! ## the composed client model (`Model/Trace.lean`; tie: every H-client transcript of the real client must be accepted; see `Props/C01`) -/
section ComposedModel
open Mqtt5V.Model

/-- **C08 end to end, every accepted history**: at any moment (after any prefix) two operations whose request packets (PUBLISH QoS 1/2,
SUBSCRIBE, UNSUBSCRIBE) carried the same identifier and that have both not completed yet are the same operation … -/
theorem composed_outstanding_identifiers_distinct (tr pre post : List Trace.Ev) (hacc : Trace.accepts tr = true) (hsplit : tr = pre ++ post)
    (o1 o2 p : Nat) (u1 : Trace.usesPid pre o1 p) (u2 : Trace.usesPid pre o2 p) (n1 : ¬ Trace.doneIn pre o1) (n2 : ¬ Trace.doneIn pre o2) :
    o1 = o2 :=
  Mqtt5V.Proofs.Trace.pid_unique hacc hsplit u1 u2 n1 n2

/-- … an operation uses one identifier for all its transmissions, and never 0 -/
theorem composed_identifier_stable_nonzero (tr : List Trace.Ev) (hacc : Trace.accepts tr = true) (op p1 p2 : Nat)
    (u1 : Trace.usesPid tr op p1) (u2 : Trace.usesPid tr op p2) : p1 = p2 ∧ p1 ≠ 0 :=
  Mqtt5V.Proofs.Trace.pid_stable hacc u1 u2

example : Trace.accepts [.init 1 .pub1 1, .init 2 .sub 1, .connUp none, .wr, .pk (.publish 1 1 7 false 3), .pk (.subscribe 2 7 4)] = false := by decide
example : Trace.accepts [.init 1 .pub1 1, .init 2 .sub 1, .connUp none, .wr, .pk (.publish 1 1 7 false 3), .wrOk,
    .rx ⟨.puback, 7, [0], 0, true⟩, .doneOk 1 [0] 0, .wr, .pk (.subscribe 2 7 4)] = true := by decide

end ComposedModel

end Mqtt5V.Props.C08
