import Mqtt5V.Proofs.TraceInDeliver
import Mqtt5V.Model.Session
import Mqtt5V.Props.C10
/-! # C13 — losing the session is reported once through async_receive (flag machine)

Model of the two session flags.  For every history of reconnects (any Session Present value), session
refreshes (`update_session_state`, called from both the read and the write path, any number of times per
connection) and successful subscriptions: a refresh stores `session_expired` exactly when the connection's
CONNACK had Session Present = 0, this is the first refresh of that connection, and a subscription succeeded since
the client started or since the previous report; never otherwise. -/
namespace Mqtt5V.Props.C13
open Mqtt5V.Model.Session

/-- a refresh reports iff the session was not resumed and a subscription has succeeded since the last report -/
theorem report_iff (s : Sess) : (step s .update).2 = (!s.sessionPresent && s.subsPresent) := by
  unfold step; cases s.sessionPresent <;> cases s.subsPresent <;> rfl

/-- **idempotence**: the second and later refreshes of the same connection (read path and write path both call it)
report nothing and change nothing -/
theorem second_update_silent (s : Sess) :
    (step (step s .update).1 .update) = ((step s .update).1, false) := by
  cases s with
  | mk sp su => cases sp <;> cases su <;> rfl

/-- **resumed session ⇒ no report, and the subscription memory is kept** for a later loss -/
theorem resumed_no_report (s : Sess) :
    (step (step s (.connack true)).1 .update) = ({ s with sessionPresent := true }, false) := by
  simp [step]

/-- **lost session after a successful subscription ⇒ exactly one report**, then the memory is cleared -/
theorem lost_after_subscription_reports_once (s : Sess) (h : s.subsPresent = true) :
    (step (step s (.connack false)).1 .update).2 = true ∧
    (step (step s (.connack false)).1 .update).1 = { sessionPresent := true, subsPresent := false } :=
  -- the CONNACK stored Session Present 0, so `report_iff` in that state reads `s.subsPresent`
  ⟨(report_iff _).trans h, rfl⟩

/-- **no successful subscription since the last report ⇒ none** -/
theorem lost_without_subscription_silent (s : Sess) (h : s.subsPresent = false) :
    (step (step s (.connack false)).1 .update).2 = false :=
  (report_iff _).trans h

def reports (is : List In) : Nat := ((run {} is).2.filter id).length

/-- specification: walk the history; a report is due at the first refresh after a CONNACK with Session Present 0
when a subscription succeeded since the previous report (or the start) -/
def specReports : Bool → Bool → List In → Nat   -- (pending loss, subscribed since last report)
  | _, _, [] => 0
  | _, sub, .connack sp :: is => specReports (!sp) sub is
  | lost, sub, .update :: is => (if lost && sub then 1 else 0) + specReports false (if lost then false else sub) is
  | lost, _, .subOk :: is => specReports lost true is

/-- the flag machine follows the specification from any state: "a loss is pending" is `!sessionPresent`, "subscribed since the
last report" is `subsPresent` -/
theorem reports_from (s : Sess) (is : List In) :
    ((run s is).2.filter id).length = specReports (!s.sessionPresent) s.subsPresent is := by
  induction is generalizing s with
  | nil => rfl
  | cons i is ih =>
    obtain ⟨sp, su⟩ := s
    simp only [run, List.filter_cons]
    cases i with
    | connack sp' => simp [step, specReports, ih]
    | update => cases sp <;> cases su <;> simp [step, specReports, ih, Nat.add_comm]
    | subOk => cases su <;> simp [step, specReports, ih]

/-- **exactly one report per lost session with a subscription since the last report — for every history** -/
theorem reports_match_spec (is : List In) : reports is = specReports true false is :=
  reports_from {} is

/-- non-vacuity: subscribe, resume, lose, lose again without subscribing: one report -/
example : (run {} [.connack false, .update, .update, .subOk, .connack true, .update, .connack false, .update, .update,
    .connack false, .update]).2 = [false, false, false, false, false, false, false, true, false, false, false] := by decide

/-! ## the composed client model, inbound side (`Model/TraceIn.lean`; tie: every H-client transcript of the real client must be accepted) -/
section ComposedModel
open Mqtt5V.Model

/-- **C13 end to end, every accepted history**: after every prefix the application has been handed at most as many `session_expired` reports as
are due — `TraceIn.expiryDue`, computed from the events alone: one for every reconnect with Session Present = 0 that follows a successful
subscription not yet reported; none for a resumed session, none without a subscription since the last report. (That a due report is
delivered is the monitor's part; that it comes ahead of the QoS 0 messages of the new session is the next theorem: the report is stored into
the first-in-first-out channel at the reconnect, before anything of the new connection is read.) -/
theorem composed_expired_reports_bounded (tr pre post : List TraceIn.Ev) (hacc : TraceIn.accepts tr = true) (hsplit : tr = pre ++ post) :
    TraceIn.cnt TraceIn.isDeliverExp pre ≤ TraceIn.expiryDue pre := by
  obtain ⟨s, hr⟩ := Mqtt5V.Proofs.TraceIn.isRun.isSome_prefix hacc hsplit
  exact Nat.le_trans (Nat.le_add_right _ _) (Mqtt5V.Proofs.TraceIn.exp_reach _ _ hr).2

example : TraceIn.accepts [.connUp false, .subOk, .connUp true, .connUp false, .deliver 9 0 0, .connUp false] = true := by decide
example : TraceIn.accepts [.connUp false, .subOk, .connUp false, .deliver 9 0 0, .connUp false, .deliver 9 0 0] = false := by decide
example : TraceIn.accepts [.connUp false, .subOk, .connUp true, .deliver 9 0 0] = false := by decide

/-- **C13 end to end (order), every accepted history**: after every prefix, what the application was handed on the QoS 0 lane of the receive
channel — QoS 0 messages and `session_expired` reports (written `0`; real messages are numbered from 1) — is, in this order, a subsequence
of what became due on that lane (`TraceIn.laneDue`, from the events alone: every QoS 0 message when it is received, a report at the reconnect
that loses the session). So a report is never handed over after a QoS 0 message that arrived after the session was lost; QoS 1 / QoS 2
messages of the new session enter the same first-in-first-out channel later still (only when their acknowledgement has been written). -/
theorem composed_report_ahead_of_new_messages (tr pre post : List TraceIn.Ev) (hacc : TraceIn.accepts tr = true) (hsplit : tr = pre ++ post) :
    (TraceIn.laneDelivered pre).Sublist (TraceIn.laneDue pre) := by
  obtain ⟨s, hr⟩ := Mqtt5V.Proofs.TraceIn.isRun.isSome_prefix hacc hsplit
  exact (List.sublist_append_left _ _).trans (Mqtt5V.Proofs.TraceIn.lane_reach _ _ hr).2

example : TraceIn.accepts [.connUp false, .subOk, .connUp false, .rxPub 0 0 5, .deliver 9 0 0, .deliver 0 0 5] = true := by decide
example : TraceIn.accepts [.connUp false, .subOk, .connUp false, .rxPub 0 0 5, .deliver 0 0 5, .deliver 9 0 0] = false := by decide

end ComposedModel


section Handshake
open Mqtt5V.Model Mqtt5V.Model.Connect Mqtt5V.Proofs.Dec

/-- the first value `decodeConnack` returns is the byte at the start of the variable header: the Connect Acknowledge Flags -/
theorem decodeConnack_flags {c : Dec.Ctx} {pos remain sp rc : Nat} {ps : Wire.Props} {p : Nat}
    (h : Dec.decodeConnack c pos remain = .ok (sp, rc, ps) p) : sp = c.mem.getD pos 0 := by
  -- `decodeConnack` is `whole (byte >>= byte >>= props >>= ok)`: peel the three binds; the first `byte` read is `sp`
  obtain ⟨flags, q, hflags, h⟩ := bind_eq_ok (whole_eq_ok h).1
  obtain ⟨_rc, _, _, h⟩ := bind_eq_ok h
  obtain ⟨_ps, _, _, h⟩ := bind_eq_ok h
  obtain rfl : flags = sp := by injection h with h; injection h
  unfold Dec.byte at hflags
  simp only [ite_eq_of_ne, ne_eq, reduceCtorEq, not_false_eq_true, Dec.Res.ok.injEq] at hflags
  obtain ⟨_inScope, _inBuffer, hval, _⟩ := hflags
  exact hval.symm

/-- **the Session Present flag the client stores is the CONNACK's**: whatever bytes the broker sends in reply to CONNECT, if the handshake is
accepted with Session Present `sp`, then `sp` is the Connect Acknowledge Flags byte of the CONNACK that was received (the first byte behind
its fixed header) and it is 0 or 1.  (The handshake model is tied to the real `connect_op` by the `hs` differential on H-stream, which also
compares the stored flag; with an authenticator the stream monitor compares the stored flag with the reference decoder's.) -/
theorem stored_session_present_is_the_connacks (rx : Wire.Bs) (sp : Nat) (ps : Wire.Props) (h : handshake rx = .established sp ps) :
    sp ≤ 1 ∧ ∃ first len remain, frame (rx.take minPacketSz) = .more 0x20 first len remain ∧
      sp = (rx.take (minPacketSz + remain)).getD first 0 := by
  obtain ⟨_, hsp, first, len, remain, hf, _, p, hd⟩ := Mqtt5V.Props.C10.established_only_after_success_connack rx sp ps h
  exact ⟨hsp, first, len, remain, hf, decodeConnack_flags hd⟩

end Handshake

end Mqtt5V.Props.C13
