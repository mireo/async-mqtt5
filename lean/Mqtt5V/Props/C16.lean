import Mqtt5V.Proofs.Utf8
/-! # C16 — request validation accepts exactly the well-formed MQTT inputs (string level)

For *every* byte string: the model of `validate_mqtt_utf8`, `validate_topic_name` and
`validate_topic_alias_name` (hand-written port of the decoder, translated per-character rule) accepts
exactly the strings that are well-formed UTF-8 by Unicode Table 3-7 (`Spec.Utf8.decode`), contain only
code points MQTT allows, respect the 65535-byte limit and, for topic names, contain no wildcard and are
non-empty unless a Topic Alias is used.  The topic-filter and `$share` grammars are tied to their
specification by the exhaustive small-scope correspondence of the check (not by a theorem yet). -/
namespace Mqtt5V.Props.C16
open Mqtt5V Model.Utf8 Spec.Utf8 Proofs.Utf8 Gen.Utf8Rule

/-- the translated per-character rule is the specification's classification, for every value -/
theorem charRule_eq_spec (c : Nat) :
    charRule c = if isWildcard c then 1 else if allowed c && !isSurrogate c then 0 else 2 :=
  charRule_spec c

/-- the model's decoder decodes exactly the sequences of Table 3-7 (surrogates are decoded and then
rejected by the character rule) -/
theorem popFront_eq_table (bs : List Nat) :
    decodeOne bs = rejectSurrogate (popFront bs) :=
  decodeOne_eq_popFront bs

/-- **UTF-8 string properties, user-property names/values, payloads declared UTF-8**:
accepted ⇔ well-formed -/
theorem validateUtf8_iff (bs : List Nat) : validateUtf8 bs = 0 ↔ wellFormedString bs :=
  (validateImpl_zero_iff _ isUtf8 _ (by decide) (by decide) isUtf8_charRule bs).trans
    (and_congr_left' decide_eq_true_iff)

/-- `validate_mqtt_utf8` never returns `has_wildcard_character`: the verdict is accept (0) or reject (2) -/
theorem validateUtf8_verdict (bs : List Nat) : validateUtf8 bs = 0 ∨ validateUtf8 bs = 2 := by
  unfold validateUtf8 validateImpl
  split
  · exact .inr rfl
  · rcases validateLoop_verdict isUtf8 bs with h | h | ⟨_, ⟨⟩⟩
    · exact .inl h
    · exact .inr h

theorem topicName_core (allowEmpty : Bool) (sizeOk : Nat → Bool)
    (hsz : ∀ n, sizeOk n = ((allowEmpty || n != 0) && decide (n ≤ 65535))) (bs : List Nat) :
    validateImpl sizeOk isUtf8NoWildcard bs = 0 ↔ wellFormedTopicName allowEmpty bs := by
  rw [validateImpl_zero_iff sizeOk isUtf8NoWildcard _ (by decide) (by decide) isUtf8NoWildcard_charRule, hsz,
    Bool.and_eq_true, Bool.or_eq_true, bne_iff_ne, decide_eq_true_iff, and_assoc, ne_eq, List.length_eq_zero_iff]
  rfl

/-- **Topic Name** (PUBLISH without alias, Will topic, the plain part of a `$share` filter when wildcards are disabled):
accepted ⇔ non-empty, ≤ 65535 bytes, well-formed, allowed characters, no `#`/`+` -/
theorem topicName_iff (bs : List Nat) : validateTopicName bs = 0 ↔ wellFormedTopicName false bs :=
  -- `rfl` unfolds the translated `maxStringSize`: another constant in the header fails here
  topicName_core false _ (fun _ => rfl) bs

/-- **Topic Name when a Topic Alias is given**: the empty name is accepted too -/
theorem topicAliasName_iff (bs : List Nat) : validateTopicAliasName bs = 0 ↔ wellFormedTopicName true bs :=
  topicName_core true _ (fun _ => rfl) bs

/-- **User property**: both strings well-formed -/
theorem stringPair_iff (a b : List Nat) :
    isValidStringPair a b = true ↔ wellFormedString a ∧ wellFormedString b := by
  simp [isValidStringPair, validateUtf8_iff]

/-- non-vacuity and the two repaired defects as facts about the model: U+00FE (C3 BE) is accepted,
`C3 28` (bad continuation) and `C1 A0` (overlong) are rejected -/
example : popFront [0xC3, 0xBE] = some (0xFE, []) ∧ charRule 0xFE = 0
    ∧ popFront [0xC3, 0x28] = none ∧ popFront [0xC1, 0xA0] = none ∧ charRule 0xFFFE = 2 ∧ charRule 0x1FFFF = 2 := by
  decide

end Mqtt5V.Props.C16
