import Mqtt5V.Spec.ReasonCodes
import Mqtt5V.Proofs.ReasonCode
/-! # C20 — reason codes are admitted exactly as the MQTT 5 tables allow

The quantifier of the property is the finite table 9 categories × 256 byte values, and the statements
below carry `b < 256`; their proofs do not use it, they hold for every `Nat`.  The model of
`to_reason_code` is applied to the tables regenerated from the header.  Its binary search is correct on every strictly increasing table
(`Proofs.ReasonCode.lookupIn_sorted`), so the admission decision is membership in the table; what is
left are facts about nine short lists (they are strictly increasing, they lie between what a Server
may send and what the standard lists), which the kernel evaluates (`decide +kernel`, no axiom). -/
namespace Mqtt5V.Props.C20
open Mqtt5V Model.ReasonCode Proofs.ReasonCode

/-- precondition of the binary search: every table in the header is strictly increasing -/
theorem tables_sorted : ∀ c : Category, (Gen.ReasonCodes.table c).Pairwise (· < ·) := by
  intro c; cases c <;> decide +kernel

/-- the admission decision is exactly membership in the header's table (hit or miss, never oob) -/
theorem admit_iff_table : ∀ (c : Category) (b : Nat), b < 256 →
    toReasonCode c b = (if b ∈ Gen.ReasonCodes.table c then .hit b else .miss) :=
  -- `toReasonCode` unfolds to `lookupIn lookupGuarded …`: this typechecks only while the translated `lookupGuarded` is `true`
  fun c b _ => lookupIn_sorted (tables_sorted c) b

/-- the lookup stays inside its table for all 256 byte values, in all nine categories -/
theorem lookup_in_bounds : ∀ (c : Category) (b : Nat), b < 256 → toReasonCode c b ≠ .oob := by
  intro c b hb h
  rw [admit_iff_table c b hb] at h
  split at h <;> cases h

/-- an accepted code is reported with exactly the received value -/
theorem accepted_value_exact : ∀ (c : Category) (b : Nat), b < 256 →
    ∀ v, toReasonCode c b = .hit v → v = b :=
  fun c _ _ _ h => ((lookupIn_hit_iff (tables_sorted c)).mp h).1

/-- a code is accepted only if MQTT 5 lists it for that packet type -/
theorem admitted_only_if_listed : ∀ (c : Category) (b : Nat), b < 256 →
    ∀ v, toReasonCode c b = .hit v → b ∈ Spec.ReasonCodes.listed c := by
  have sub : ∀ c, ∀ x ∈ Gen.ReasonCodes.table c, x ∈ Spec.ReasonCodes.listed c := by
    intro c; cases c <;> decide +kernel
  exact fun c b _ _ h => sub c b ((lookupIn_hit_iff (tables_sorted c)).mp h).2

/-- a code is always accepted if MQTT 5 allows a Server to send it there -/
theorem server_codes_admitted : ∀ (c : Category) (b : Nat), b < 256 →
    b ∈ Spec.ReasonCodes.serverMaySend c → toReasonCode c b = .hit b := by
  have sub : ∀ c, ∀ x ∈ Spec.ReasonCodes.serverMaySend c, x ∈ Gen.ReasonCodes.table c := by
    intro c; cases c <;> decide +kernel
  exact fun c b _ hm => (lookupIn_hit_iff (tables_sorted c)).mpr ⟨rfl, sub c b hm⟩

/-- non-vacuity: 0x97 is accepted in PUBACK, 0x92 is not, 0x04 in DISCONNECT is listed but client-only -/
example : toReasonCode .puback 0x97 = .hit 0x97 ∧ toReasonCode .puback 0x92 = .miss
    ∧ 0x04 ∈ Spec.ReasonCodes.listed .disconnect ∧ 0x04 ∉ Spec.ReasonCodes.serverMaySend .disconnect := by
  decide +kernel

end Mqtt5V.Props.C20
