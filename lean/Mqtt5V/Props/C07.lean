import Mqtt5V.Proofs.TraceQuota
import Mqtt5V.Proofs.Sender
/-! # C07 — Receive Maximum is never exceeded (sender core)

Model of `async_sender` (queue, in-flight batch, limit/quota, resend, throttled_op_done).  For every
history of sends (requests as the client builds them), write completions with any result, replies,
reconnects that store any Receive Maximum, read-path resends and `cancel()` — of any length:
on a throttling connection `quota + (throttled requests handed to the stream since the last resend whose
reply is outstanding) ≤ limit`, the uint16 quota never wraps, and after every step that can start a write no
sendable request is left waiting while the stream is free. -/
namespace Mqtt5V.Props.C07
open Mqtt5V.Model.Sender Mqtt5V.Proofs.Sender

/-- inputs as the client produces them -/
def InOK : In → Prop
  | .send r => ReqWF r
  | .setRm (some n) => n ≤ 65535
  | _ => True

def runS (s : S) : List In → S
  | [] => s
  | i :: is => runS (step s i).1 is

theorem quota_accounting_invariant (is : List In) (hok : ∀ i ∈ is, InOK i) : Proofs.Sender.Inv (runS {} is) := by
  suffices h : ∀ s, Proofs.Sender.Inv s → Proofs.Sender.Inv (runS s is) from h _ inv_init
  induction is with
  | nil => intro s h; exact h
  | cons i is ih =>
    intro s h
    -- `InOK i` is, case for case, what `step_inv` asks of the input
    exact ih (fun j hj => hok j (List.mem_cons_of_mem _ hj)) _ (step_inv s i h (hok i List.mem_cons_self))

/-- **Receive Maximum respected**: on a connection whose CONNACK announced a Receive Maximum (limit ≠ 65535), the
throttled requests (QoS>0 PUBLISH, re-sent PUBREL) that are being written or were written on this connection and
are not yet answered never outnumber it. -/
theorem receive_maximum_respected (is : List In) (hok : ∀ i ∈ is, InOK i) :
    (runS {} is).limit ≠ MAX_LIMIT →
      nThr ((runS {} is).inflight.getD []) + nThr (runS {} is).unanswered ≤ (runS {} is).limit := by
  intro hl
  have := (quota_accounting_invariant is hok).1 hl
  omega

/-- the limit in force is the Receive Maximum stored at the last resend (absent ⇒ 65535 = no throttling): see `resend` -/
theorem limit_is_receive_maximum_at_resend (s : S) (h : s.inflight = none) :
    (resend s).1.limit = s.rm.getD MAX_LIMIT := by
  rw [resend_free h]
  exact (doWrite_other _).2.1

/-- **Throttled messages are sent as soon as quota is available**: whenever `do_write` returns with the stream free,
nothing sendable is left in the queue — what remains is throttled, non-terminal, and the quota is exhausted. -/
theorem throttled_sent_when_quota (s : S) (h : (doWrite s).1.inflight = none) :
    (doWrite s).1.queue = [] ∨
    ((doWrite s).1.limit ≠ MAX_LIMIT ∧ (doWrite s).1.quota = 0 ∧ ∀ r ∈ (doWrite s).1.queue, r.throttled = true ∧ r.terminal = false) := by
  rw [doWrite_eq] at h ⊢
  split at h
  next => cases h
  next hc =>
    -- nothing was written although the stream is free: no batch could be formed
    rw [if_neg hc]
    exact pick_nil (Classical.not_not.mp fun hb => hc ⟨h, hb⟩)

/-- non-vacuity: the inputs of a history with throttling, a reconnect, a reply and a read-path resend are admissible -/
example : ∀ i ∈ [In.setRm (some 1), .send ⟨1, true, false, false, 1, true⟩, .send ⟨2, true, false, false, 2, true⟩,
    .send ⟨3, false, false, true, 0, false⟩, .wdone .tryAgain, .wdone .ok, .ack 1, .resendRead], InOK i := by
  intro i hi
  simp at hi
  rcases hi with rfl | rfl | rfl | rfl | rfl | rfl | rfl | rfl <;> simp [InOK, ReqWF]

/-! ## the composed client model (`Model/Trace.lean`; tie: every H-client transcript of the real client must be accepted; see `Props/C01`) -/
section ComposedModel
open Mqtt5V.Model

/-- **C07 end to end, every accepted history**: after every prefix of the history, the number of QoS 1/2 PUBLISH packets written on the
current connection that no PUBACK, PUBCOMP or failing PUBREC has ended yet (`Trace.wireOf`, computed from the events alone, by
identifier) is at most the Receive Maximum announced in that connection's CONNACK (65535 if absent) -/
theorem composed_receive_maximum_respected (tr pre post : List Trace.Ev) (hacc : Trace.accepts tr = true) (hsplit : tr = pre ++ post) :
    (Trace.wireOf pre).inflight.length ≤ (Trace.wireOf pre).rm :=
  Mqtt5V.Proofs.Trace.receive_maximum_respected hacc hsplit

example : Trace.accepts [.init 1 .pub1 1, .init 2 .pub1 1, .connUp (some 1), .wr, .pk (.publish 1 1 7 false 3), .pk (.publish 2 1 8 false 4)] = false := by decide
example : Trace.accepts [.init 1 .pub1 1, .init 2 .pub1 1, .connUp (some 1), .wr, .pk (.publish 1 1 7 false 3), .wrOk,
    .rx ⟨.puback, 7, [0x80], 0, true⟩, .wr, .pk (.publish 2 1 8 false 4)] = true := by decide

end ComposedModel

end Mqtt5V.Props.C07
