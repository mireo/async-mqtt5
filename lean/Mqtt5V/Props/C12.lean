import Mqtt5V.Proofs.TraceKA
import Mqtt5V.Proofs.TraceRd
/-! # C12 — keep-alive: PINGREQ every negotiated interval; 1.5 × silence means reconnect (timing rules)

The three expressions that decide the behaviour are *translated* from the source on every run
(`Gen.Timing`: `compute_read_timeout`, `ping_op::compute_wait_time`, `negotiated_keep_alive`).  For every
keep-alive value K (uint16) and every Server Keep Alive override: -/
namespace Mqtt5V.Props.C12
open Mqtt5V.Gen.Timing

/-- the negotiated keep-alive is the broker's Server Keep Alive if present, else the configured value -/
theorem negotiated_rule (ska : Option Nat) (cfg : Nat) :
    negotiated ska cfg = (match ska with | some k => k | none => cfg) := by
  cases ska <;> rfl

/-- **the connection is abandoned after exactly 1.5 · K seconds of silence** (K > 0): the timed read is started with
a time-out of 1500 · K ms (never less) -/
theorem read_timeout_is_one_and_a_half_keepalive (k : Nat) (hk : 0 < k) : readTimeoutMs k = some (1500 * k) :=
  Proofs.Timing.readTimeoutMs_eq_some.mpr ⟨hk, rfl⟩

/-- **a PINGREQ is due exactly K seconds** after the session refresh / the previous PINGREQ's completion (K > 0) -/
theorem ping_period_is_keepalive (k : Nat) (hk : 0 < k) : pingWaitMs k = some (1000 * k) :=
  Proofs.Timing.pingWaitMs_eq_some.mpr ⟨hk, rfl⟩

/-- **K = 0: no PINGREQ, and the broker is never timed out** -/
theorem keepalive_zero_is_silent : pingWaitMs 0 = none ∧ readTimeoutMs 0 = none := ⟨rfl, rfl⟩

/-- the ping comes before the read time-out: K · 1000 < 1.5 · K · 1000 for every K > 0, so a healthy broker that
answers each PINGREQ is never timed out by the client's own silence -/
theorem ping_before_timeout (k : Nat) (hk : 0 < k) : ∀ p t, pingWaitMs k = some p → readTimeoutMs k = some t → p < t := by
  intro p t hp ht
  obtain ⟨_, rfl⟩ := Proofs.Timing.pingWaitMs_eq_some.mp hp
  obtain ⟨_, rfl⟩ := Proofs.Timing.readTimeoutMs_eq_some.mp ht
  omega

/-- no uint16 keep-alive overflows the millisecond arithmetic of the read time-out (int: 3 · 65535 · 1000 < 2³¹) -/
theorem read_timeout_no_overflow (k : Nat) (hk : k ≤ 65535) : 3 * k * 1000 < 2 ^ 31 := by omega

example : readTimeoutMs 7 = some 10500 ∧ pingWaitMs 7 = some 7000 ∧ negotiated (some 7) 60 = 7 ∧ negotiated none 60 = 60 := by decide


section ComposedModel
open Mqtt5V.Model

/-- **C12 end to end (PINGREQ no later than K seconds), every accepted timed history**: whenever the execution context has run out of ready
handlers on a running client, with K > 0 the keep-alive that was negotiated when the ping timer was last armed — at `async_run`, at the session
refresh that follows a (re)connection, at the end of the write that carried the previous PINGREQ; all read off the events alone
(`TraceKA.obs`) — then less than K seconds have passed since that moment, or a write is in progress (the PINGREQ is in it, or waits right
behind it: the property's "plus transport latency").  The model (`Model/TraceKA.lean`) is `ping_op` and the sender's handling of the PINGREQ
over a virtual clock, with the three timing expressions translated from the source; the tie is that every timed transcript of the real
client is accepted by it. -/
theorem composed_ping_by_deadline (tr : List TraceKA.Ev) (hacc : TraceKA.accepts (tr ++ [.eol]) = true)
    (hr : (TraceKA.obs tr).running = true) (hk : 0 < (TraceKA.obs tr).kArm) :
    (TraceKA.obs tr).now < (TraceKA.obs tr).lastReset + 1000 * (TraceKA.obs tr).kArm ∨ (TraceKA.obs tr).writing = true := by
  obtain ⟨p, q, hT, hP, h⟩ := Proofs.TraceKA.last hacc
  cases p with
  | idle => exact Bool.noConfusion (hr.symm.trans hT)
  | waiting d =>
    -- the timer was set to `lastReset + 1000 · kArm` and has not fired
    obtain ⟨_, hd, hlt⟩ := hT
    rw [ping_period_is_keepalive _ hk] at hd
    exact Or.inl (hlt _ hd).1
  | sending =>
    -- the PINGREQ is in the write in progress, or queued, and then `eol` is accepted only during a write
    exact Or.inr (hP.elim (Proofs.TraceKA.step_eol.mp h) (·.2))

/-- a PINGREQ is written only if a positive keep-alive was in force at one of the moments the ping timer was armed -/
theorem composed_ping_needs_keepalive (tr : List TraceKA.Ev) (t : Bool) (hacc : TraceKA.accepts (tr ++ [.wr true t]) = true) :
    0 < (TraceKA.obs tr).kMax := by
  obtain ⟨p, q, hT, hP, h⟩ := Proofs.TraceKA.last hacc
  -- the write takes a PINGREQ only if one is queued, and that is so in phase `sending` only
  cases hP.sending (Or.inl (Proofs.TraceKA.step_wr_ping.mp h).2.2)
  exact hT.2

/-- **C12 end to end (K = 0 is silent)**: a client configured with keep-alive 0, on connections whose CONNACK carries no Server Keep Alive
(or 0), never starts a write that carries a PINGREQ — in no accepted history. -/
theorem composed_no_ping_with_keepalive_zero (tr : List TraceKA.Ev) (t : Bool)
    (hc : ∀ k, TraceKA.Ev.cfg k ∈ tr → k = 0) (hu : ∀ ska, TraceKA.Ev.connUp ska ∈ tr → ska = none ∨ ska = some 0) :
    TraceKA.accepts (.cfg 0 :: tr ++ [.wr true t]) = false := by
  refine Bool.eq_false_iff.mpr fun h => ?_
  have hp := composed_ping_needs_keepalive (.cfg 0 :: tr) t h
  have z : Proofs.TraceKA.ZeroObs (TraceKA.obs (.cfg 0 :: tr)) := Proofs.TraceKA.zero_obs (tr := tr) hc hu ⟨rfl, rfl, Or.inl rfl⟩
  exact absurd hp (by simp [z.1])

/-- **C12 end to end (silence limit)**: every read the client starts carries the time-out 1.5 · K of the keep-alive negotiated at that moment
(the broker's Server Keep Alive if the latest CONNACK had one, else the configured value), and no time-out at all for K = 0.  (That the
connection is abandoned exactly when this time-out expires without a byte is the stream layer's part: H-stream monitor, S.3.) -/
theorem composed_read_timeout_rule (tr : List TraceKA.Ev) (t : Option Nat) (hacc : TraceKA.accepts (tr ++ [.rd t]) = true) :
    t = readTimeoutMs (negotiated (TraceKA.obs tr).ska (TraceKA.obs tr).cfg) := by
  obtain ⟨p, q, -, -, h⟩ := Proofs.TraceKA.last hacc
  exact Proofs.TraceKA.step_rd.mp h

/-- the same in the property's own numbers: with negotiated keep-alive K > 0 every read is started with the limit 1500 · K ms, with K = 0 with none -/
theorem composed_read_limit_in_numbers (tr : List TraceKA.Ev) (t : Option Nat) (hacc : TraceKA.accepts (tr ++ [.rd t]) = true) :
    (0 < negotiated (TraceKA.obs tr).ska (TraceKA.obs tr).cfg → t = some (1500 * negotiated (TraceKA.obs tr).ska (TraceKA.obs tr).cfg)) ∧
    (negotiated (TraceKA.obs tr).ska (TraceKA.obs tr).cfg = 0 → t = none) := by
  obtain rfl := composed_read_timeout_rule tr t hacc
  exact ⟨read_timeout_is_one_and_a_half_keepalive _, fun hk => by rw [hk]; rfl⟩

/- the premises are satisfiable, and the guards bite: keep-alive 5 s; the PINGREQ leaves when 5 s have passed, not before, and not later -/
example : TraceKA.accepts [.cfg 5, .run, .rd (some 7500), .eol, .connUp none, .refresh, .eol, .adv 4999, .eol, .adv 1, .wr true false, .eol,
    .adv 300, .wrOk, .eol, .adv 4999, .eol, .adv 2, .wr true false, .eol] = true := by decide
example : TraceKA.accepts [.cfg 5, .run, .eol, .adv 4999, .wr true false] = false := by decide          -- too early
example : TraceKA.accepts [.cfg 5, .run, .eol, .adv 5000, .eol] = false := by decide                     -- overdue, nothing written
example : TraceKA.accepts [.cfg 5, .run, .eol, .adv 5000, .wr false false] = false := by decide          -- a write without the PINGREQ that is due
example : TraceKA.accepts [.cfg 5, .run, .connUp (some 2), .refresh, .rd (some 3000), .adv 2000, .wr true false, .eol] = true := by decide   -- Server Keep Alive wins
example : TraceKA.accepts [.cfg 5, .run, .connUp (some 2), .refresh, .rd (some 7500)] = false := by decide
example : TraceKA.accepts [.cfg 0, .run, .rd none, .adv 100000, .eol] = true := by decide
example : TraceKA.accepts [.cfg 5, .run, .wr false false, .adv 5000, .eol, .adv 9000, .eol, .wrOk, .wr true false, .eol] = true := by decide   -- transport latency: the PINGREQ waits for the write in progress
example : (TraceKA.obs [.cfg 5, .run, .eol, .adv 4999]).running = true ∧ 0 < (TraceKA.obs [.cfg 5, .run, .eol, .adv 4999]).kArm := by decide


/-! ### the silence limit itself (`Model/TraceRd.lean`: the timed read of the real stream layer, every timed H-stream transcript must be accepted) -/

/-- **C12 end to end (abandoned at 1.5 · K, never earlier, never for K = 0)**: in every accepted timed history of the stream layer, the read
timer gives a connection up only while a read with a limit is in progress and at least that limit has passed since the read began — both read
off the events alone.  With `composed_read_timeout_rule` (the client starts every read with the limit 1.5 · K, none for K = 0) this is the
clause "abandons the connection when it has waited 1.5·K seconds for data without a single byte arriving, never earlier; with K = 0 never". -/
theorem composed_abandon_only_at_the_limit (tr : List TraceRd.Ev) (hacc : TraceRd.accepts (tr ++ [.abandon]) = true) :
    ∃ t0 lim, TraceRd.readOf tr = some (t0, some lim) ∧ t0 + lim ≤ TraceRd.nowOf tr :=
  Proofs.TraceRd.step_abandon.mp (Proofs.TraceRd.last hacc)

/-- **… and no later**: whenever the execution context has run out of ready handlers, a read with a limit that is still in progress began less
than its limit ago. -/
theorem composed_pending_read_within_limit (tr : List TraceRd.Ev) (hacc : TraceRd.accepts (tr ++ [.eol]) = true) (t0 lim : Nat)
    (hr : TraceRd.readOf tr = some (t0, some lim)) : TraceRd.nowOf tr < t0 + lim :=
  Proofs.TraceRd.step_eol.mp (Proofs.TraceRd.last hacc) t0 lim hr

example : TraceRd.accepts [.start (some 7500), .eol, .adv 7499, .eol, .adv 1, .abandon, .eol] = true := by decide
example : TraceRd.accepts [.start (some 7500), .eol, .adv 7499, .abandon] = false := by decide      -- one millisecond early
example : TraceRd.accepts [.start (some 7500), .eol, .adv 7500, .eol] = false := by decide          -- the limit passed and the read is still pending
example : TraceRd.accepts [.start none, .eol, .adv 1000000, .eol] = true := by decide               -- keep-alive 0: never
example : TraceRd.accepts [.start none, .eol, .adv 1000000, .abandon] = false := by decide
example : TraceRd.accepts [.start (some 3000), .adv 2000, .finish, .start (some 3000), .adv 2999, .eol] = true := by decide   -- every byte restarts the wait
example : TraceRd.readOf [.start (some 7500), .eol, .adv 7499] = some (0, some 7500) ∧ TraceRd.nowOf [.start (some 7500), .eol, .adv 7499] = 7499 := by decide

end ComposedModel

end Mqtt5V.Props.C12
