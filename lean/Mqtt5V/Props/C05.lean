import Mqtt5V.Proofs.TraceQuota
import Mqtt5V.Proofs.PubSend
import Mqtt5V.Proofs.Sender
import Mqtt5V.Model.Replies
import Mqtt5V.Props.C11
/-! # C05 — exactly-once, non-reentrant completion; cancel() drains (component core)

`cancel()` = ping/sentry timers, channel, `replies.cancel_unanswered()`, `async_sender.cancel()`, connection lock,
stream.  In the component models:
* `replies.cancel_unanswered()` aborts every waiter exactly once and keeps none;
* `async_sender.cancel()` aborts every queued request exactly once and keeps none;
* `async_mutex.cancel()` aborts every live waiter (C11), none is granted afterwards;
* the initiating calls never run a completion inline: `async_send` produces no completion at all in its own call,
  `lock()` / `unlock()` / `cancel()` of the connection lock never run a handler inline (C11). -/
namespace Mqtt5V.Props.C05
open Mqtt5V.Model.Sender

/-- `replies.cancel_unanswered()`: one `operation_aborted` per waiter, nothing left behind -/
theorem replies_cancel_aborts_each_waiter_once (r : Model.Replies.R) :
    (Model.Replies.step r .cancelUnanswered).2 = r.handlers.map (fun h => ⟨h.w, .aborted, 0⟩) ∧
    (Model.Replies.step r .cancelUnanswered).1.handlers = [] := ⟨rfl, rfl⟩

/-- `async_sender.cancel()`: one `operation_aborted` per queued request, queue emptied -/
theorem sender_cancel_aborts_each_queued_once (s : S) :
    (step s .cancel).2 = s.queue.map (fun r => .done r.id .aborted) ∧ (step s .cancel).1.queue = [] := ⟨rfl, rfl⟩

/-- **never from inside the initiating call**: `async_send` itself completes nothing — its own call only ever hands a
batch to the stream -/
theorem send_completes_nothing_inline (s : S) (r : SReq) : ∀ e ∈ (step s (.send r)).2, ∃ ids, e = .wr ids :=
  Proofs.Sender.doWrite_events _

/-- the connection lock never runs a completion inside `lock()`, `unlock()` or `cancel()` (from C11) -/
theorem lock_calls_never_complete_inline (m : Model.Mutex.M) (w : Nat) :
    (m.step (.lock w)).2 = [] ∧ (m.step .unlock).2 = [] ∧ (m.step .cancelAll).2 = [] :=
  ⟨C11.lock_never_inline m w, (C11.unlock_cancel_never_inline m).1, (C11.unlock_cancel_never_inline m).2⟩

/-- a request written successfully that awaits no reply is finished exactly once by that write completion, one that
awaits a reply is not finished by it -/
theorem write_completion_finishes_each_once (s : S) (b : List SReq) (h : s.inflight = some b) :
    ∃ rest, (step s (.wdone .ok)).2 = (b.filter (fun r => !r.awaits)).map (fun r => Ev.done r.id .ok) ++ rest ∧
      ∀ e ∈ rest, ∃ ids, e = .wr ids := by
  simp only [step, h]
  exact ⟨_, rfl, Proofs.Sender.doWrite_events _⟩


/-! ## the publish operation (`publish_send_op`, Model/PubSend.lean, tied by the H-pubsend lock-step) -/
section PubSendOp
open Mqtt5V.Proofs.PubSend

/-- **exactly-once completion, identifier released exactly once, nothing afterwards**: after the handler ran no further action
of the operation exists -/
theorem nothing_after_completion (qos2 : Bool) (is : List Model.PubSend.In) (l1 l2 : List Model.PubSend.Act) (c : Model.PubSend.Act) (hc : isCompletion c = true)
    (h : trace qos2 is = l1 ++ c :: l2) : l2 = [] := by
  cases l2 with
  | nil => rfl
  | cons a r =>
    have h' : trace qos2 is = (l1 ++ [c]) ++ a :: r := by simpa using h
    have hb := accepted h'
    simp only [feedAll_append, Mon.feedAll] at hb
    rw [feed_after_completed_bad qos2 _ (feed_completion_completed qos2 _ c hc) a] at hb
    cases hb


end PubSendOp

/-! ## the composed client model (`Model/Trace.lean`; tie: every H-client transcript of the real client must be accepted; see `Props/C01`) -/
section ComposedModel
open Mqtt5V.Model

/-- **C05 (exactly once) end to end, every accepted history**: no operation has two completions, whatever happened in between
(reconnects, resends, cancellations, acknowledgements arriving twice) -/
theorem composed_complete_at_most_once (tr a b c : List Trace.Ev) (d1 d2 : Trace.Ev) (op : Nat)
    (hacc : Trace.accepts tr = true) (hsplit : tr = a ++ d1 :: b ++ d2 :: c)
    (h1 : Trace.isDoneEv op d1) (h2 : Trace.isDoneEv op d2) : False :=
  Mqtt5V.Proofs.Trace.complete_once hacc hsplit h1 h2

example : Trace.accepts [.init 1 .pub1 1, .connUp none, .wr, .pk (.publish 1 1 7 false 3), .wrOk, .rx ⟨.puback, 7, [0], 0, true⟩,
    .rx ⟨.puback, 7, [0], 0, true⟩, .doneOk 1 [0] 0, .doneOk 1 [0] 0] = false := by decide

/-- **C05 (drain) end to end**: `quiescent` stands for "cancel() was called or async_disconnect finished, and the execution context has run
out of work" (the harness reports `ioc.stopped()` after a full drain). In every accepted history every operation initiated before that
point — publish, subscribe, unsubscribe, async_run, async_receive, async_disconnect — has completed; with the theorem above: exactly once -/
theorem composed_all_completed_at_quiescence (pre post : List Trace.Ev) (op : Nat) (k : Trace.Kind) (n : Nat)
    (hacc : Trace.accepts (pre ++ Trace.Ev.quiescent :: post) = true) (hi : Trace.Ev.init op k n ∈ pre) : Trace.doneIn pre op :=
  Mqtt5V.Proofs.Trace.all_completed_at_quiescence hacc hi

example : Trace.accepts [.init 1 .pub1 1, .init 2 .other 1, .connUp none, .wr, .pk (.publish 1 1 7 false 3), .wrFail, .doneOther 1, .doneOther 2, .quiescent] = true := by decide
example : Trace.accepts [.init 1 .pub1 1, .init 2 .other 1, .connUp none, .wr, .pk (.publish 1 1 7 false 3), .wrFail, .doneOther 1, .quiescent] = false := by decide

/-- **C05 / C09 end to end**: `cancelAll` stands for cancel(), a terminal cancellation signal of a publish / subscribe / unsubscribe, or a
finished async_disconnect; `restart` for a later async_run(). In every accepted history no publish, subscribe or unsubscribe completes
successfully between a `cancelAll` and the next `restart` (`Trace.cancelledOf` is computed from the events alone): whatever was outstanding
can only end with an error -/
theorem composed_no_success_after_cancel (pre post : List Trace.Ev) (op : Nat) (rcs : List Nat) (props : Nat)
    (hacc : Trace.accepts (pre ++ Trace.Ev.doneOk op rcs props :: post) = true) : Trace.cancelledOf pre = false :=
  Mqtt5V.Proofs.Trace.no_success_after_cancel hacc

example : Trace.accepts [.init 1 .pub1 1, .connUp none, .wr, .pk (.publish 1 1 7 false 3), .wrOk, .rx ⟨.puback, 7, [0], 0, true⟩, .cancelAll,
    .doneOk 1 [0] 0] = false := by decide
example : Trace.accepts [.init 1 .pub1 1, .connUp none, .wr, .pk (.publish 1 1 7 false 3), .wrOk, .cancelAll, .doneOther 1, .quiescent, .restart] = true := by decide

end ComposedModel

end Mqtt5V.Props.C05
