import Mqtt5V.Proofs.TraceContent
import Mqtt5V.Proofs.TraceTruth
import Mqtt5V.Proofs.PubSend
import Mqtt5V.Proofs.Replies
/-! # C01 — publish success is truthful (reply-matching core)

A QoS 1/2 publish completes successfully only through its reply waiter being completed with `ok` and the
bytes of a reply.  In the model of `detail::replies`, for every history of registrations, arriving replies,
resends, cancellations and fast-reply clearings, of any length:
a waiter is completed with `ok` only with the bytes of a reply that was dispatched with exactly the
(control code, packet identifier) the waiter registered for; keys are unique, so a reply completes at most
one waiter; fast replies are discarded at every stream write, so a stored reply can only be consumed by a
waiter if it arrived after the most recent write was initiated. -/
namespace Mqtt5V.Props.C01
open Mqtt5V.Model.Replies Mqtt5V.Proofs.Replies

def runR (r : R) : List In → R × List Ev
  | [] => (r, [])
  | i :: is => let x := step r i; let y := runR x.1 is; (y.1, x.2 ++ y.2)

theorem isOutRun : Lts.IsOutRun step runR := ⟨fun _ => rfl, fun _ _ _ => rfl⟩

/-- keys stay unique in every reachable state: a reply can match at most one waiter -/
theorem keys_unique_reachable (is : List In) : KeysUnique (runR {} is).1 :=
  isOutRun.invariant KeysUnique (by simp [KeysUnique]) step_keys is

/-- fast replies are discarded at every stream write (`clear_fast_replies` in `do_write`) -/
theorem fast_replies_cleared_at_write (r : R) : (step r .clearFast).1.fast = [] := rfl

/-- provenance invariant: every waiter was registered with its key, every stored reply was dispatched with its key -/
def Prov (hist : List In) (r : R) : Prop :=
  (∀ h ∈ r.handlers, In.wait h.w h.code h.pid ∈ hist) ∧ (∀ f ∈ r.fast, In.dispatch f.code f.pid f.tag ∈ hist)

theorem step_prov (hist : List In) (r : R) (i : In) (h : Prov hist r) : Prov (hist ++ [i]) (step r i).1 := by
  obtain ⟨hh, hf⟩ := h
  have up : ∀ {x}, x ∈ hist → x ∈ hist ++ [i] := List.mem_append_left _
  have last : i ∈ hist ++ [i] := List.mem_append_right _ (List.mem_singleton_self i)
  refine ⟨fun x hx => ?_, fun f hfm => ?_⟩
  · rcases mem_handlers_step hx with h | h
    · exact up (hh x h)
    · exact h ▸ last
  · rcases mem_fast_step hfm with h | h
    · exact up (hf f h)
    · exact h ▸ last

/-- **Success has a cause**: in any history, a waiter completed with `ok` was registered for some (code, id) and a reply
with exactly that code and id — the one whose bytes it received — arrived. -/
theorem ok_completion_has_matching_reply (is : List In) :
    ∀ e ∈ (runR {} is).2, e.rc = .ok → ∃ c p, In.wait e.w c p ∈ is ∧ In.dispatch c p e.tag ∈ is := by
  intro e he hok
  -- `e` was emitted by the step on some input `i`, in the state the inputs `pre` before it lead to; there `Prov pre` holds
  obtain ⟨pre, i, post, rfl, hi⟩ := isOutRun.mem_out he
  obtain ⟨hh, hf⟩ : Prov pre (runR {} pre).1 := isOutRun.reach Prov (by simp [Prov]) step_prov pre
  have old : ∀ {x}, x ∈ pre → x ∈ pre ++ i :: post := List.mem_append_left _
  have now : i ∈ pre ++ i :: post := List.mem_append_right _ List.mem_cons_self
  -- `ok` comes from a stored reply meeting its waiter `i`, or from a waiter meeting its reply `i`
  rcases ok_of_step hi hok with ⟨f, hfm, rfl, ht⟩ | ⟨h, hm, rfl, hw⟩
  · exact ⟨f.code, f.pid, now, ht ▸ old (hf f hfm)⟩
  · exact ⟨h.code, h.pid, hw ▸ old (hh h hm), now⟩

/-- non-vacuity: a reply that arrives before its waiter is consumed by it; a replaced waiter is aborted -/
example : (runR {} [.dispatch 0x40 5 77, .wait 1 0x40 5, .wait 2 0x50 9, .wait 3 0x50 9, .dispatch 0x50 9 88]).2
    = [⟨1, .ok, 77⟩, ⟨2, .aborted, 0⟩, ⟨3, .ok, 88⟩] := by decide


/-! ## the publish operation (`publish_send_op`, Model/PubSend.lean, tied by the H-pubsend lock-step) -/
section PubSendOp
open Mqtt5V.Proofs.PubSend

/-- **a reported success is the broker's**: the handler receives reason code `rc` only if a decodable acknowledgement with an
admissible reason code `rc` arrived (and its properties, except for a failing PUBREC which ends a QoS 2 exchange without them) -/
theorem success_reports_an_acknowledgement (is : List Model.PubSend.In) : ∀ (s : Model.PubSend.S) (rc p : Nat), Model.PubSend.Act.completeOk rc p ∈ (Model.PubSend.run s is).2 →
    ∃ p', Model.PubSend.In.reply (.ack rc p') ∈ is ∧ (p = p' ∨ p = 0) := by
  intro s rc p h
  obtain ⟨pre, i, post, rfl, hs⟩ := Proofs.PubSend.isOutRun.mem_out h
  obtain ⟨p', rfl, hp⟩ := step_completeOk hs
  exact ⟨p', List.mem_append_right _ List.mem_cons_self, hp⟩

end PubSendOp

/-! ## the composed client model (`Model/Trace.lean`)
One labelled transition system for the whole outbound path of the client above the stream (API call → sender → reply map → completion),
over the events an observer of the real client sees.  The tie: `lib/trace_check.py` replays every H-client transcript of the real
`mqtt_client` through the compiled model (`mdrv trace`); a transcript the model refuses is a broken correspondence.  The theorems below
hold for EVERY event list the model accepts, of any length. -/
section ComposedModel
open Mqtt5V.Model

/-- **C01 end to end, every accepted history**: when an `async_publish` (QoS 1/2; also SUBSCRIBE/UNSUBSCRIBE, see C14) completes
without error handing `rcs` / `props` to its handler, then earlier in the history (`Trace.Truthful`): a PUBLISH of exactly this operation
was written carrying a non-zero identifier `p`, AFTER that a well-formed acknowledgement for `p` of the right type was read whose reason
code is `rcs` (admissible for its packet type) and whose properties are `props`; for QoS 2 either a failing PUBREC (which ends the
exchange) or the full chain PUBLISH → successful PUBREC → PUBREL → PUBCOMP, in this order. -/
theorem composed_publish_success_truthful (pre post : List Trace.Ev) (op : Nat) (rcs : List Nat) (props : Nat)
    (hacc : Trace.accepts (pre ++ Trace.Ev.doneOk op rcs props :: post) = true) :
    ∃ p k n, Trace.Ev.init op k n ∈ pre ∧ p ≠ 0 ∧ Trace.Truthful pre op p k n rcs props :=
  Mqtt5V.Proofs.Trace.success_truthful hacc

/-- non-vacuity: a QoS 2 exchange with a fast PUBCOMP (it arrives while the PUBREL is still being written) is accepted … -/
example : Trace.accepts [.init 1 .pub2 1, .connUp (some 1), .wr, .pk (.publish 1 2 7 false 3), .wrOk,
    .rx ⟨.pubrec, 7, [0], 0, true⟩, .wr, .pk (.pubrel 7), .rx ⟨.pubcomp, 7, [0], 5, true⟩, .wrOk, .doneOk 1 [0] 5] = true := by decide
/-- … a success without an acknowledgement is not, nor one that uses an acknowledgement which arrived before the PUBLISH was written -/
example : Trace.accepts [.init 1 .pub1 1, .connUp none, .wr, .pk (.publish 1 1 7 false 3), .wrOk, .doneOk 1 [0] 0] = false := by decide
example : Trace.accepts [.init 1 .pub1 1, .connUp none, .rx ⟨.puback, 7, [0], 0, true⟩, .wr, .pk (.publish 1 1 7 false 3), .wrOk,
    .doneOk 1 [0] 0] = false := by decide

end ComposedModel

/-! ## the composed client model, content of requests (`Model/TraceContent.lean`)
The front end (`lib/trace_abs.py: abstract_content`) computes the content identity of a publish (topic, payload, QoS, retain, canonical
properties) twice: from the arguments of the API call and from the packet the independent reference decoder reads off the wire; the tie
(`lib/trace_check.py`) replays every H-client transcript. -/
section ComposedContent
open Mqtt5V.Model

/-- **every accepted history**: whenever a PUBLISH of operation `op` is written — first transmission or retransmission, on any connection —
it says exactly what the operation's `async_publish` call said, and that call came before -/
theorem composed_request_says_what_was_asked (pre post : List TraceContent.Ev) (op c : Nat)
    (hacc : TraceContent.accepts (pre ++ TraceContent.Ev.req op c :: post) = true) : TraceContent.Ev.init op c ∈ pre :=
  Mqtt5V.Proofs.TraceContent.request_says_what_was_asked hacc

example : TraceContent.accepts [.init 1 5, .init 2 6, .req 1 5, .req 2 6, .req 1 5] = true := by decide
example : TraceContent.accepts [.init 1 5, .req 1 6] = false := by decide
example : TraceContent.accepts [.req 1 5] = false := by decide

end ComposedContent

end Mqtt5V.Props.C01
