import Mqtt5V.Proofs.Mutex
/-! # C11 — reconnection is single-flight (connection-lock level)

Theorems about the model of `async_mutex`, for *every* legal history of `lock`, `unlock`,
per-waiter cancellation (from outside or from inside a handler), cancel-all and executor steps, of any
length.  Legal = waiter ids are fresh and `unlock` is called only by a waiter whose grant has run and
that has not unlocked yet (the holder discipline of reconnect_op / shutdown_op). -/
namespace Mqtt5V.Props.C11
open Mqtt5V.Model.Mutex Mqtt5V.Proofs.Mutex

theorem inv {is : List In} {g : G} (hr : ({} : G).run is = some g) : GInv g := reachable_inv is _ _ ginv_init hr

theorem grants_prefix {g : G} (h : GInv g) :
    (grantsOf g.trace).IsPrefix (g.arrival.filter (notIn g.abortedP)) ∧ ∀ w ∈ grantsOf g.trace, w ∉ g.abortedP := by
  have hpre : (grantsOf g.trace).IsPrefix (g.arrival.filter (notIn g.abortedP)) := by
    rw [← h.part, ← h.tr, List.append_assoc]
    exact List.prefix_append _ _
  exact ⟨hpre, fun w hw => notIn_eq_true.mp (List.mem_filter.mp (hpre.subset hw)).2⟩

/-- **At most one holder**: whenever a grant completion runs, no earlier grant is still un-released:
the grant that runs belongs to a waiter to which the lock was handed while nobody held it. -/
theorem at_most_one_holder (is : List In) (g : G) (hr : ({} : G).run is = some g) :
    (pendingGrants g.m.posted).length ≤ 1 ∧
    (∀ w r, g.m.posted = .ev (.grant w) :: r → g.delivered = false ∧ g.m.locked = true) := by
  constructor
  · rw [(inv hr).pend]; split
    · cases g.grantedP.getLast? <;> simp
    · simp
  · intro w r hp
    obtain ⟨hlk, hd, -⟩ := (inv hr).posted_grant hp
    exact ⟨hd, hlk⟩

/-- a legal `unlock` needs a delivered grant, and delivering a grant needs `delivered = false`: between two
deliveries of a grant there is an `unlock` (grants and unlocks alternate) -/
theorem grant_then_unlock_alternate (is : List In) (g : G) (hr : ({} : G).run is = some g) :
    g.delivered = true → pendingGrants g.m.posted = [] := by
  intro hd; rw [(inv hr).pend, hd]; simp

/-- **Grants in arrival order**: the waiters granted so far are exactly the first ones of the arrival
sequence once the cancelled waiters are removed. -/
theorem grants_in_arrival_order (is : List In) (g : G) (hr : ({} : G).run is = some g) :
    (grantsOf g.trace).IsPrefix (g.arrival.filter (notIn g.abortedP)) :=
  (grants_prefix (inv hr)).1

/-- **Each waiter is resolved at most once**, by a grant or by an abort, never both. -/
theorem each_waiter_resolved_once (is : List In) (g : G) (hr : ({} : G).run is = some g) :
    (grantsOf g.trace).Nodup ∧ (abortsOf g.trace).Nodup ∧ ∀ w ∈ grantsOf g.trace, w ∉ abortsOf g.trace := by
  have h := inv hr
  obtain ⟨hpre, hna⟩ := grants_prefix h
  exact ⟨hpre.sublist.nodup (h.nodupA.filter _), (List.nodup_append.mp h.abNodup).1,
    fun w hw hab => hna w hw (h.abIn w (List.mem_append_left _ hab))⟩

/-- **Nobody is lost**: every waiter that ever called `lock` is in exactly one place — granted
(grant run or posted), still waiting in the queue, or aborted (abort run or posted). -/
theorem every_waiter_accounted_for (is : List In) (g : G) (hr : ({} : G).run is = some g) :
    ∀ w ∈ g.arrival, (w ∈ g.grantedP ∨ w ∈ live g.m.waiting) ↔ w ∉ g.abortedP := by
  intro w hw
  rw [← List.mem_append, (inv hr).part, List.mem_filter, notIn_eq_true]
  exact and_iff_right hw

/-- **A cancelled waiter never proceeds**: once a waiter's cancellation took effect (its abort was
posted or run) it is never granted, now or after any legal continuation. -/
theorem cancelled_never_granted (is js : List In) (g g' : G) (hr : ({} : G).run is = some g)
    (hr' : g.run js = some g') : ∀ w ∈ g.abortedP, w ∈ g'.abortedP → w ∉ grantsOf g'.trace :=
  fun w _ hw' hg => (grants_prefix (reachable_inv js _ _ (inv hr) hr')).2 w hg hw'

/-- **Completions run only from the executor**: no call of the interface (`lock`, `unlock`, a cancellation signal from outside or
scheduled from inside a handler, `cancel`) runs a handler inline; only an executor step does -/
theorem completes_only_in_run1 (m : M) (i : In) (h : i ≠ .run1) : (m.step i).2 = [] := by
  cases i with
  | lock w => simp only [M.step]; split <;> rfl
  | unlock => simp only [M.step]; split <;> rfl
  | cancelOne w inside =>
    cases inside
    · simp only [M.step, emitSignal, Bool.false_eq_true, if_false]; split <;> rfl
    · rfl
  | cancelAll => rfl
  | run1 => exact absurd rfl h

/-- `lock()` never completes inline: no completion runs inside the initiating call -/
theorem lock_never_inline (m : M) (w : Nat) : (m.step (.lock w)).2 = [] :=
  completes_only_in_run1 m _ In.noConfusion

/-- `unlock()` and `cancel()` never run a handler inline either -/
theorem unlock_cancel_never_inline (m : M) : (m.step .unlock).2 = [] ∧ (m.step .cancelAll).2 = [] :=
  ⟨completes_only_in_run1 m _ In.noConfusion, completes_only_in_run1 m _ In.noConfusion⟩

/-- non-vacuity: a legal history with a cancelled middle waiter; 3 overtakes nobody, 2 is never granted -/
example : (({} : G).run [.lock 1, .lock 2, .lock 3, .run1, .cancelOne 2 false, .unlock, .run1, .run1]).map
    (fun g => (g.trace, g.m.locked)) = some ([.grant 1, .abort 2, .grant 3], true) := by decide

end Mqtt5V.Props.C11
