import Mqtt5V.Proofs.TraceDup
import Mqtt5V.Proofs.PubSend
import Mqtt5V.Props.C17
/-! # C03 — QoS 2 sender: retransmissions are faithful (packet core)

`control_packet::set_dup()` is the only thing the library ever changes in a stored PUBLISH.  In the encoder model:
setting DUP on a PUBLISH that was encoded with DUP = 0 gives, byte for byte, the encoding of the same message with
DUP = 1 — same packet identifier, same topic, payload, QoS, RETAIN and properties; nothing but bit 3 of the first byte
changes; and it is idempotent.  With C17 this retransmission decodes (independent decoder) to the same message with
DUP = 1.  (That the operation keeps only the PUBREL after a successful PUBREC is checked on the real client by the
C03 monitor; the stored-packet state machine is not modelled in Lean.) -/
namespace Mqtt5V.Props.C03
open Mqtt5V.Wire Mqtt5V.Model.Enc

/-- `set_dup()` touches only the first byte, and there only bit 3 -/
theorem setDup_only_bit3 (b : Nat) (r : Bs) :
    setDup (b :: r) = (if b / 8 % 2 = 1 then b else b + 8) :: r := rfl

/-- on a packet whose first byte `b0` has bit 3 clear, `set_dup()` gives the same packet with first byte `b0 + 8` -/
theorem setDup_packet {b0 : Nat} (h : b0 / 8 % 2 = 0) (hb : b0 + 8 < 256) (n : Nat) (body : Bs) :
    setDup (packet b0 n body) = packet (b0 + 8) n body := by
  have hb0 : b0 % 256 = b0 := Nat.mod_eq_of_lt (by omega)
  rw [packet, packet, hb0, Nat.mod_eq_of_lt hb, setDup_only_bit3, if_neg (by omega)]

theorem setDup_idempotent (bs : Bs) : setDup (setDup bs) = setDup bs := by
  cases bs with
  | nil => rfl
  | cons b r =>
    -- after `set_dup()` bit 3 is set: `(b + 8) / 8 = b / 8 + 1`
    have h : (if b / 8 % 2 = 1 then b else b + 8) / 8 % 2 = 1 := by
      split
      · assumption
      · rw [Nat.add_div_right b (by decide)]
        omega
    simp only [setDup_only_bit3, if_pos h]

/-- **a retransmitted PUBLISH is byte-identical to the first transmission except for the DUP bit** -/
theorem retransmission_identical_but_dup (pid : Nat) (topic payload : Bs) (qos retain : Nat) (ps : Props)
    (hq : qos ≤ 2) (hr : retain ≤ 1) :
    setDup (encodePublish pid topic payload qos retain 0 ps) = encodePublish pid topic payload qos retain 1 ps := by
  -- DUP is bit 3 of the first byte `((3 * 2 + dup) * 4 + qos) * 2 + retain`; the rest of the packet does not mention it
  have e : ((3 * 2 + 1) * 4 + qos) * 2 + retain = ((3 * 2 + 0) * 4 + qos) * 2 + retain + 8 := by omega
  simp only [encodePublish, e]
  exact setDup_packet (by omega) (by omega) _ _

/-- the first transmission has DUP = 0 and the retransmission DUP = 1, and both decode to the message asked for -/
theorem retransmission_decodes_with_dup (pid : Nat) (topic payload : Bs) (qos retain : Nat) (ps : Props)
    (h0 : C17.WFPublish (some pid) topic qos retain 0 ps) (h1 : C17.WFPublish (some pid) topic qos retain 1 ps)
    (hsz : lenPrefixedSize topic + 2 + propsSize false ps + payload.length ≤ 268435455) :
    Spec.Wire.decode (setDup (encodePublish pid topic payload qos retain 0 ps)) = some (.publish (some pid) topic payload qos retain 1 ps) := by
  rw [retransmission_identical_but_dup pid topic payload qos retain ps h0.hqos h0.hretain]
  exact C17.publish_encode_decodes (some pid) topic payload qos retain 1 ps h1 hsz


/-! ## the publish operation (`publish_send_op`, Model/PubSend.lean, tied by the H-pubsend lock-step) -/
section PubSendOp
open Mqtt5V.Model.PubSend Mqtt5V.Proofs.PubSend

/-- **QoS 2: once a PUBREL has been handed to the sender (a successful PUBREC was processed) the message is never published
again** — for every history of write results, reconnects (`tryAgain`), malformed replies and cancellations -/
theorem no_publish_after_pubrel (qos2 : Bool) (is : List In) (l1 l2 : List Act) (t : Bool)
    (h : trace qos2 is = l1 ++ .sendPubrel t :: l2) : ∀ d, Act.sendPublish d ∉ l2 := by
  intro d hd
  obtain ⟨l3, l4, rfl⟩ := List.append_of_mem hd
  have h' : trace qos2 is = (l1 ++ .sendPubrel t :: l3) ++ .sendPublish d :: l4 := by simpa using h
  have hr := (feed_publish_ok (accepted h')).1
  simp only [feedAll_append, Mon.feedAll] at hr
  -- the PUBREL set `seenRel`, and nothing clears it
  exact Bool.false_ne_true (hr.symm.trans (seenRel_sticky qos2 l3 _ rfl))

/-- **DUP is set exactly on a retransmission of a PUBLISH whose earlier write succeeded** -/
theorem dup_iff_earlier_write_succeeded (qos2 : Bool) (is : List In) (l1 l2 : List Act) (d : Bool)
    (h : trace qos2 is = l1 ++ .sendPublish d :: l2) : d = l1.any isWaitAck := by
  rw [(feed_publish_ok (accepted h)).2, seenWait_eq]
  rfl

/-- non-vacuity: QoS 2, write fails once, PUBREC lost on a reconnect (re-sent with DUP), PUBREC ok, PUBREL, PUBCOMP lost once, done -/
example : trace true [.sent .tryAgain, .sent .ok, .reply .tryAgain, .sent .ok, .reply (.ack 0 7), .sent .ok, .reply .tryAgain, .sent .ok, .reply (.ack 0 9)] =
    [.sendPublish false, .sendPublish false, .waitAck, .sendPublish true, .waitAck, .sendPubrel false, .waitPubcomp, .sendPubrel true, .waitPubcomp,
     .freePid, .completeOk 0 9] := by decide


end PubSendOp

/-! ## the composed client model (`Model/Trace.lean`; tie: every H-client transcript of the real client must be accepted; see `Props/C01`) -/
section ComposedModel
open Mqtt5V.Model

/-- **C03 end to end (1)**: once the PUBREL of a QoS 2 exchange has been written — the client consumed the successful PUBREC — the
PUBLISH of that exchange is never written again, in no accepted history, whatever reconnects and resends lie in between -/
theorem composed_no_publish_after_pubrel (pre post : List Trace.Ev) (op q p : Nat) (dup : Bool) (body : Nat)
    (hacc : Trace.accepts (pre ++ Trace.Ev.pk (.publish op q p dup body) :: post) = true)
    (c : Trace.Chain [Trace.isReq op p, Trace.isRel p] pre) : False :=
  Mqtt5V.Proofs.Trace.no_publish_after_pubrel hacc c

/-- **C03 end to end (2)**: every transmission of an operation's request carries the same bytes apart from the DUP bit … -/
theorem composed_retransmission_identical (tr : List Trace.Ev) (hacc : Trace.accepts tr = true) (op b1 b2 : Nat)
    (u1 : Trace.usesBody tr op b1) (u2 : Trace.usesBody tr op b2) : b1 = b2 :=
  Mqtt5V.Proofs.Trace.retransmission_identical hacc u1 u2

/-- … and the same packet identifier -/
theorem composed_retransmission_same_identifier (tr : List Trace.Ev) (hacc : Trace.accepts tr = true) (op p1 p2 : Nat)
    (u1 : Trace.usesPid tr op p1) (u2 : Trace.usesPid tr op p2) : p1 = p2 :=
  (Mqtt5V.Proofs.Trace.pid_stable hacc u1 u2).1

/-- **C03 end to end (3)**: the first transmission of a PUBLISH has DUP = 0 … -/
theorem composed_first_transmission_dup_zero (pre post : List Trace.Ev) (op q p : Nat) (dup : Bool) (body : Nat)
    (hacc : Trace.accepts (pre ++ Trace.Ev.pk (.publish op q p dup body) :: post) = true)
    (hfirst : ∀ p', ¬ Trace.usesPid pre op p') : dup = false :=
  Mqtt5V.Proofs.Trace.first_transmission_dup_zero hacc hfirst

/-- … and DUP = 1 whenever a write that contained an earlier transmission of it had completed successfully
(`writtenOk`: the PUBLISH event, then — with no other write event in between — the successful end of that write) -/
theorem composed_dup_after_successful_write (pre post : List Trace.Ev) (op q p : Nat) (dup : Bool) (body : Nat)
    (hacc : Trace.accepts (pre ++ Trace.Ev.pk (.publish op q p dup body) :: post) = true)
    (hw : Trace.writtenOk pre op) : dup = true :=
  Mqtt5V.Proofs.Trace.dup_after_successful_write hacc hw

/-- non-vacuity: a QoS 2 publish re-sent with DUP after a reconnect, PUBREL re-sent after another one, is accepted … -/
example : Trace.accepts [.init 1 .pub2 1, .connUp none, .wr, .pk (.publish 1 2 7 false 3), .wrOk, .connUp none, .wr,
    .pk (.publish 1 2 7 true 3), .wrOk, .rx ⟨.pubrec, 7, [0], 0, true⟩, .wr, .pk (.pubrel 7), .wrFail, .connUp none, .wr, .pk (.pubrel 7), .wrOk,
    .rx ⟨.pubcomp, 7, [0], 0, true⟩, .doneOk 1 [0] 0] = true := by decide
/-- … the same with DUP = 0 on the retransmission, a PUBLISH after the PUBREL, or changed bytes, is not -/
example : Trace.accepts [.init 1 .pub2 1, .connUp none, .wr, .pk (.publish 1 2 7 false 3), .wrOk, .connUp none, .wr,
    .pk (.publish 1 2 7 false 3)] = false := by decide
example : Trace.accepts [.init 1 .pub2 1, .connUp none, .wr, .pk (.publish 1 2 7 false 3), .wrOk, .rx ⟨.pubrec, 7, [0], 0, true⟩, .wr,
    .pk (.pubrel 7), .wrFail, .connUp none, .wr, .pk (.publish 1 2 7 true 3)] = false := by decide
example : Trace.accepts [.init 1 .pub1 1, .connUp none, .wr, .pk (.publish 1 1 7 false 3), .wrFail, .connUp none, .wr,
    .pk (.publish 1 1 7 false 4)] = false := by decide

end ComposedModel

end Mqtt5V.Props.C03
