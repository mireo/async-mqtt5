import Mqtt5V.Proofs.DecRoundtrip
import Mqtt5V.Proofs.Canon
/-! # C18 — well-formed packets from the broker decode to exactly their contents

Model: `Model/Dec.lean` (index model of `base_decoders.hpp` / `message_decoders.hpp`, tied to the real decoders by the
`dec` lock-step on well-formed and damaged packets).  The bytes are described by the encoder combinators of `Model/Enc.lean`
(`propsBody ps` = the properties in the order given — any order, any repetition), placed anywhere in a buffer (`At`).
"What the decoder yields" for a property block is `canon allowed ps`: the content of the library's property container after
assigning the properties in wire order (single-valued slots keep the last value, User Properties and Subscription Identifiers
keep all, in order). -/
namespace Mqtt5V.Props.C18
open Mqtt5V.Wire Mqtt5V.Model.Dec Mqtt5V.Model.Enc Mqtt5V.Proofs.Enc Mqtt5V.Proofs.DecRoundtrip Mqtt5V.Gen.PropTable Mqtt5V.Model.PropsText Mqtt5V.Proofs.Canon

-- the buffer and the packet's real end: the first two arguments of every theorem of this file
variable (mem : Bs) (rl : Nat)

/-- `hp`: behind the reason code stands the encoded property block (`props_ok`), or the packet ends (`props_none`) -/
theorem rcProps_decodes {allowed : List Nat} {bs : Bs} {v : Props} (hp : Decodes 0 (props allowed) bs v) (rc : Nat) {n : Nat}
    (hn : bs.length + 1 = n) {pos : Nat} {r : Bs} (h : At mem pos ([rc] ++ bs ++ r)) (hrl : pos + n ≤ rl) :
    rcProps allowed ⟨mem, rl⟩ pos n = .ok (rc, v) (pos + n) := by
  -- what `rcProps` runs inside its scope: reason code, then properties
  have hd : Decodes 0 (fun c pos lim => (byte c pos lim).bind fun rc p => (props allowed c p lim).bind fun ps p' => .ok (rc, ps) p')
      ([rc] ++ bs) (rc, v) :=
    Decodes.bind (byte_ok rc) (hp.map (Prod.mk rc))
  unfold rcProps
  rw [if_neg (by omega)]
  exact hd.whole hn h hrl

/-- **full form** of PUBACK / PUBREC / PUBREL / PUBCOMP (after the Packet Identifier), DISCONNECT, AUTH:
reason code and every property are read back -/
theorem ack_full_form (allowed : List Nat) (rc : Nat) (ps : Props) (hw : ∀ p ∈ ps, WFPropD allowed p)
    (hsz : propsBodySize ps ≤ 268435455) (pos : Nat) (r : Bs) (h : At mem pos ([rc] ++ propsEncode false ps ++ r))
    (hrl : pos + (1 + propsSize false ps) ≤ rl) :
    rcProps allowed ⟨mem, rl⟩ pos (1 + propsSize false ps) = .ok (rc, canon allowed ps) (pos + (1 + propsSize false ps)) :=
  rcProps_decodes mem rl (props_ok hw hsz 0) rc (by rw [propsEncode_length, Nat.add_comm]) h hrl

/-- **omitted Property Length** (Remaining Length covers the reason code only): the code is read, no properties -/
theorem ack_omitted_property_length (allowed : List Nat) (rc pos : Nat) (r : Bs) (h : At mem pos (rc :: r)) (hrl : pos + 1 ≤ rl) :
    rcProps allowed ⟨mem, rl⟩ pos 1 = .ok (rc, []) (pos + 1) :=
  rcProps_decodes mem rl (props_none allowed) rc rfl h hrl

/-- **omitted reason code** (nothing after the Packet Identifier / empty DISCONNECT or AUTH): Success, no properties -/
theorem ack_omitted_reason_code (allowed : List Nat) (pos : Nat) : rcProps allowed ⟨mem, rl⟩ pos 0 = .ok (0, []) pos := by
  simp [rcProps]

/-- **CONNACK**: session-present flag, reason code and properties -/
theorem connack_decodes (sp rc : Nat) (ps : Props) (hsp : sp < 256) (hrc : rc < 256) (hw : ∀ p ∈ ps, WFPropD connackProps p)
    (hsz : propsBodySize ps ≤ 268435455) (pos : Nat) (r : Bs) (h : At mem pos ([sp, rc] ++ propsEncode false ps ++ r))
    (hrl : pos + (2 + propsSize false ps) ≤ rl) :
    decodeConnack ⟨mem, rl⟩ pos (2 + propsSize false ps) = .ok (sp, rc, canon connackProps ps) (pos + (2 + propsSize false ps)) := by
  have hd : Decodes 0 (fun c pos lim => (byte c pos lim).bind fun sp p => (byte c p lim).bind fun rc p1 =>
      (props connackProps c p1 lim).bind fun ps p2 => .ok (sp, rc, ps) p2) ([sp] ++ ([rc] ++ propsEncode false ps)) (sp, rc, canon connackProps ps) :=
    Decodes.bind (byte_ok sp) (Decodes.bind (byte_ok rc) ((props_ok hw hsz 0).map fun ps => (sp, rc, ps)))
  exact hd.whole (by simp [propsEncode_length]; omega) h hrl

/-- **SUBACK / UNSUBACK** (after the Packet Identifier): properties, then one reason code per byte, all of them, in order -/
theorem codes_decode (allowed : List Nat) (ps : Props) (rcs : Bs) (hne : rcs ≠ []) (hw : ∀ p ∈ ps, WFPropD allowed p)
    (hsz : propsBodySize ps ≤ 268435455) (pos : Nat) (r : Bs) (h : At mem pos (propsEncode false ps ++ rcs ++ r))
    (hrl : pos + (propsSize false ps + rcs.length) ≤ rl) :
    decodeCodes allowed ⟨mem, rl⟩ pos (propsSize false ps + rcs.length) =
      .ok (canon allowed ps, rcs) (pos + (propsSize false ps + rcs.length)) := by
  have hd : Decodes 0 (fun c pos lim => (props allowed c pos lim).bind fun ps p =>
      if p ≥ lim then .fail else (slice c p (lim - p) lim).bind fun rcs p' => .ok (ps, rcs) p') (propsEncode false ps ++ rcs)
      (canon allowed ps, rcs) :=
    Decodes.bind (props_ok hw hsz) (Decodes.guard hne ((rest_ok rcs).map (Prod.mk (canon allowed ps))))
  exact hd.run (by simp [propsEncode_length]) h rfl hrl

/-- **PUBLISH**: topic, Packet Identifier exactly when QoS > 0, properties (several Subscription Identifiers and repeated User
Properties kept in order), and the payload = every remaining byte -/
theorem publish_decodes (cb : Nat) (topic payload : Bs) (pid : Nat) (ps : Props) (ht : topic.length ≤ 65535) (hp : pid < 65536)
    (hw : ∀ p ∈ ps, WFPropD publishProps p) (hsz : propsBodySize ps ≤ 268435455) (pos remain : Nat) (r : Bs)
    (h : At mem pos (lenPrefixed topic ++ ((if cb % 16 / 2 % 4 ≠ 0 then be16 pid else []) ++ (propsEncode false ps ++ (payload ++ r)))))
    (hrem : remain = 2 + topic.length + (if cb % 16 / 2 % 4 ≠ 0 then 2 else 0) + propsSize false ps + payload.length)
    (hrl : pos + remain ≤ rl) :
    decodePublish ⟨mem, rl⟩ cb pos remain =
      .ok (topic, (if cb % 16 / 2 % 4 ≠ 0 then some pid else none), cb % 16, canon publishProps ps, payload) (pos + remain) := by
  have hd : Decodes 0 (fun c pos lim => (lenPrefix c pos lim).bind fun topic p =>
      (if cb % 16 / 2 % 4 ≠ 0 then (bigWord c p lim).bind fun pid p' => .ok (some pid) p' else .ok none p).bind fun pid p1 =>
      (props publishProps c p1 lim).bind fun ps p2 =>
      (slice c p2 (lim - p2) lim).bind fun payload p3 => .ok (topic, pid, cb % 16, ps, payload) p3)
      (lenPrefixed topic ++ ((if cb % 16 / 2 % 4 ≠ 0 then be16 pid else []) ++ (propsEncode false ps ++ payload)))
      (topic, (if cb % 16 / 2 % 4 ≠ 0 then some pid else none), cb % 16, canon publishProps ps, payload) :=
    Decodes.bind (lenPrefix_ok ht) (Decodes.bind (fun e => .ite ((bigWord_ok hp e).map some) (.pure none e))
      (Decodes.bind (props_ok hw hsz) ((rest_ok payload).map _)))
  refine hd.run ?_ (by simpa only [List.append_assoc] using h) rfl hrl
  rw [hrem]
  split <;> simp [lenPrefixed, propsEncode_length] <;> omega

/-- every property table of the library lists each identifier once (needed for the fixed-point property of the container) -/
theorem tables_nodup : connackProps.Nodup ∧ publishProps.Nodup ∧ pubackProps.Nodup ∧ pubrecProps.Nodup ∧ pubrelProps.Nodup ∧
    pubcompProps.Nodup ∧ subackProps.Nodup ∧ unsubackProps.Nodup ∧ disconnectProps.Nodup ∧ authProps.Nodup := by decide

/-- **encoding the result again reproduces the same contents**: the decoded acknowledgement `(rc, canon ps)`, encoded by the
library's encoder model in full form and decoded once more, is `(rc, canon ps)` again -/
theorem ack_reencode_roundtrip (allowed : List Nat) (hnd : allowed.Nodup) (rc : Nat) (ps : Props) (hrc : rc < 256)
    (hw : ∀ p ∈ ps, WFPropD allowed p) (hsz : propsBodySize (canon allowed ps) ≤ 268435455) (pos : Nat) (r : Bs)
    (h : At mem pos ([rc] ++ propsEncode false (canon allowed ps) ++ r))
    (hrl : pos + (1 + propsSize false (canon allowed ps)) ≤ rl) :
    rcProps allowed ⟨mem, rl⟩ pos (1 + propsSize false (canon allowed ps)) =
      .ok (rc, canon allowed ps) (pos + (1 + propsSize false (canon allowed ps))) := by
  have := ack_full_form mem rl allowed rc (canon allowed ps) (fun p hp => hw p (mem_canon allowed ps p hp)) hsz pos r h hrl
  rw [canon_idem allowed ps hnd] at this
  exact this

/-- non-vacuity: a PUBACK body `rc=0x10, Reason String "ab", User Property k=v` anywhere in a buffer satisfies the hypotheses -/
example : ∀ p ∈ ([⟨0x1F, .str [97, 98]⟩, ⟨0x26, .pair [107] [118]⟩] : Props), WFPropD pubackProps p := by
  intro p hp
  simp at hp
  rcases hp with rfl | rfl
  · exact ⟨by decide, by decide, ⟨false, by decide⟩, by simp [WFVal]⟩
  · exact ⟨by decide, by decide, ⟨true, by decide⟩, by simp [WFVal]⟩

example : rcProps pubackProps ⟨[0xAA, 0x10, 5, 0x1F, 0, 2, 97, 98, 0xBB], 8⟩ 1 7 = .ok (0x10, [⟨0x1F, .str [97, 98]⟩]) 8 := by rfl

end Mqtt5V.Props.C18
