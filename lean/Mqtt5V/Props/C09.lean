import Mqtt5V.Proofs.TraceQuota
import Mqtt5V.Proofs.TraceDisc
import Mqtt5V.Proofs.TraceDiscT
import Mqtt5V.Proofs.Sender
/-! # C09 — async_disconnect: DISCONNECT first and alone (sender core)

`async_disconnect` sends its DISCONNECT with the `terminal` flag.  In the model of `async_sender::do_write`:
when the stream is free and a terminal request is queued, the batch handed to the stream is exactly that
request — alone and ahead of every other queued packet, whatever the queue holds and whatever the quota is;
when a write is in progress nothing is written until it completes, and then the terminal request is next. -/
namespace Mqtt5V.Props.C09
open Mqtt5V.Model.Sender Mqtt5V.Proofs.Sender

/-- **Terminal request alone and first**: stream free + a terminal request in the queue ⇒ the write is exactly `[it]`
(the first terminal one), it leaves the queue, everything else stays queued in order. -/
theorem terminal_alone_and_first (s : S) (hfree : s.inflight = none) (t : SReq)
    (ht : s.queue.find? (·.terminal) = some t) :
    (doWrite s).2 = [.wr [t.id]] ∧ (doWrite s).1.inflight = some [t] ∧ (doWrite s).1.queue = s.queue.erase t := by
  rw [doWrite_eq, if_pos ⟨hfree, by simp [pick_terminal ht]⟩, pick_terminal ht]
  exact ⟨rfl, rfl, rfl⟩

/-- while a write is in progress `do_write` writes nothing: the DISCONNECT waits for the write already in progress -/
theorem nothing_written_while_in_progress (s : S) (b : List SReq) (h : s.inflight = some b) : doWrite s = (s, []) := by
  rw [doWrite_eq, if_neg (by simp [h])]

/-- … and once that write has finished successfully the next thing written is the terminal request alone -/
theorem terminal_is_next_after_write (s : S) (b : List SReq) (h : s.inflight = some b) (t : SReq)
    (ht : s.queue.find? (·.terminal) = some t) :
    ∃ fin, (step s (.wdone .ok)).2 = fin ++ [.wr [t.id]] ∧ (∀ e ∈ fin, ∃ id, e = .done id .ok) := by
  simp only [step, h]
  have := terminal_alone_and_first
    { s with inflight := none, unanswered := s.unanswered ++ b.filter (·.awaits) } rfl t ht
  exact ⟨_, by rw [this.1], List.forall_mem_map.mpr fun (r : SReq) _ => ⟨r.id, rfl⟩⟩

/-- a terminal request never shares a batch: every batch `do_write` forms either is a single terminal request or
contains no terminal request at all -/
theorem batch_terminal_exclusive (s : S) (b : List SReq) (h : (doWrite s).1.inflight = some b) (hs : s.inflight = none) :
    (∃ t, b = [t] ∧ t.terminal = true) ∨ (∀ r ∈ b, r.terminal = false) := by
  rw [doWrite_eq] at h
  split at h
  next =>
    obtain rfl : (pick s).1 = b := Option.some.inj h
    cases hf : s.queue.find? (·.terminal) with
    | some t => exact .inl ⟨t, by rw [pick_terminal hf], List.find?_some hf⟩
    | none =>
      refine .inr fun r hr => ?_
      simpa using List.find?_eq_none.mp hf r ((pick_partition s).1.subset hr)
  next =>
    rw [hs] at h
    cases h

/-! ## the composed client model (`Model/Trace.lean`; tie: every H-client transcript of the real client must be accepted) -/
section ComposedModel
open Mqtt5V.Model

/-- **C05 / C09 end to end**: `cancelAll` stands for cancel(), a terminal cancellation signal of a publish / subscribe / unsubscribe, or a
finished async_disconnect; `restart` for a later async_run(). In every accepted history no publish, subscribe or unsubscribe completes
successfully between a `cancelAll` and the next `restart` (`Trace.cancelledOf` is computed from the events alone): whatever was outstanding
can only end with an error -/
theorem composed_no_success_after_cancel (pre post : List Trace.Ev) (op : Nat) (rcs : List Nat) (props : Nat)
    (hacc : Trace.accepts (pre ++ Trace.Ev.doneOk op rcs props :: post) = true) : Trace.cancelledOf pre = false :=
  Mqtt5V.Proofs.Trace.no_success_after_cancel hacc

example : Trace.accepts [.init 1 .pub1 1, .connUp none, .wr, .pk (.publish 1 1 7 false 3), .wrOk, .rx ⟨.puback, 7, [0], 0, true⟩, .cancelAll,
    .doneOk 1 [0] 0] = false := by decide
example : Trace.accepts [.init 1 .pub1 1, .connUp none, .wr, .pk (.publish 1 1 7 false 3), .wrOk, .cancelAll, .doneOther 1, .quiescent, .restart] = true := by decide

/-! ### the DISCONNECT rule at write level (`Model/TraceDisc.lean`: the write-level projection of every H-client transcript must be accepted) -/

/-- **C09 end to end**: in every accepted history a DISCONNECT is the first packet of its write … -/
theorem composed_disconnect_first_in_write (pre mid post : List TraceDisc.Ev)
    (hacc : TraceDisc.accepts (pre ++ TraceDisc.Ev.wr :: mid ++ TraceDisc.Ev.pkDisc :: post) = true)
    (hmid : ∀ e ∈ mid, e = TraceDisc.Ev.pkOther ∨ e = TraceDisc.Ev.pkDisc) : mid = [] := by
  obtain ⟨s2, _, h, hd⟩ := Proofs.TraceDisc.isRun.isSome_mid hacc
  obtain ⟨s0, s1, _, hw, hm⟩ := Proofs.TraceDisc.isRun.mid h
  -- the write starts with no packet, `mid` adds one each, and a DISCONNECT is accepted only as the first
  obtain ⟨-, -, rfl⟩ := Proofs.TraceDisc.step_wr.mp hw
  obtain ⟨-, hc, -⟩ := Proofs.TraceDisc.step_pkDisc.mp hd
  have hn := Proofs.TraceDisc.count_packets hmid hm
  exact List.eq_nil_of_length_eq_zero (by simpa [hc] using hn.symm)

/-- … and the last one: a DISCONNECT leaves on its own -/
theorem composed_nothing_after_disconnect_in_write (pre post : List TraceDisc.Ev) (e : TraceDisc.Ev)
    (hacc : TraceDisc.accepts (pre ++ TraceDisc.Ev.pkDisc :: e :: post) = true) : e ≠ TraceDisc.Ev.pkOther ∧ e ≠ TraceDisc.Ev.pkDisc := by
  obtain ⟨s', h⟩ := Option.isSome_iff_exists.mp hacc
  obtain ⟨s0, s1, _, hd, h⟩ := Proofs.TraceDisc.isRun.mid h
  obtain ⟨s2, he, _⟩ := Proofs.TraceDisc.isRun.head h
  obtain ⟨-, -, rfl⟩ := Proofs.TraceDisc.step_pkDisc.mp hd
  -- the write now has a DISCONNECT and `count = 1`: neither kind of packet is accepted
  constructor <;> rintro rfl
  · obtain ⟨-, hh, -⟩ := Proofs.TraceDisc.step_pkOther.mp he
    cases hh
  · obtain ⟨-, hc, -⟩ := Proofs.TraceDisc.step_pkDisc.mp he
    cases hc

/-- **C09 end to end**: after a write that carried a DISCONNECT has completed successfully on a live connection, nothing more is written on
that connection: the next write-level event cannot be the start of a write (`connectedOf` is computed from the events alone) -/
theorem composed_silence_after_disconnect (pre post : List TraceDisc.Ev)
    (hacc : TraceDisc.accepts (pre ++ TraceDisc.Ev.pkDisc :: TraceDisc.Ev.wrOk :: TraceDisc.Ev.wr :: post) = true) :
    TraceDisc.connectedOf pre = false := by
  obtain ⟨s', h⟩ := Option.isSome_iff_exists.mp hacc
  obtain ⟨s0, s1, h0, hd, h⟩ := Proofs.TraceDisc.isRun.mid h
  obtain ⟨s2, hk, h⟩ := Proofs.TraceDisc.isRun.head h
  obtain ⟨s3, hw, _⟩ := Proofs.TraceDisc.isRun.head h
  rw [← Proofs.TraceDisc.conn_reach h0]
  obtain ⟨-, -, rfl⟩ := Proofs.TraceDisc.step_pkDisc.mp hd
  obtain ⟨-, rfl⟩ := Proofs.TraceDisc.step_wrOk.mp hk
  -- `said` is now `connected`, and a write starts only if not both
  obtain ⟨-, hs, -⟩ := Proofs.TraceDisc.step_wr.mp hw
  cases hc : s0.connected
  · rfl
  · simpa [hc] using hs hc

example : TraceDisc.accepts [.connUp, .wr, .pkOther, .pkOther, .wrOk, .wr, .pkDisc, .wrOk, .connDown, .wr, .pkOther] = true := by decide
example : TraceDisc.accepts [.connUp, .wr, .pkOther, .pkDisc] = false := by decide
example : TraceDisc.accepts [.connUp, .wr, .pkDisc, .pkOther] = false := by decide
example : TraceDisc.accepts [.connUp, .wr, .pkDisc, .wrOk, .wr] = false := by decide

/-! ### the 5 s limit (`Model/TraceDiscT.lean`: the timed projection of every H-client transcript must be accepted) -/

/-- **C09 end to end (done within 5 seconds)**: in every accepted timed history the clock never moves on from a moment at or past 5000 ms
(`Gen.Timing.disconnectLimitMs`, translated from `disconnect_op`) after the initiation of an `async_disconnect` that is still in progress — so the
operation completes no later than at the first clock value that reaches the limit, whether or not the broker is reachable and whatever the write
in progress does.  Time and initiation are read off the events alone. -/
theorem composed_disconnect_done_within_limit (tr : List TraceDiscT.Ev) (ms : Nat) (hacc : TraceDiscT.accepts (tr ++ [.adv ms]) = true) (t0 : Nat)
    (hp : (TraceDiscT.obs tr).2 = some t0) : (TraceDiscT.obs tr).1 < t0 + 5000 :=
  -- `step_adv` says `disconnectLimitMs`; that it is the 5000 of the statement is checked by unfolding the translated constant, on purpose:
  -- a different limit in the C++ stops this line from typechecking
  Proofs.TraceDiscT.step_adv.mp (Proofs.TraceDiscT.last hacc) t0 hp

example : TraceDiscT.accepts [.adv 100, .disc, .adv 4999, .adv 1, .done, .adv 7000] = true := by decide
example : TraceDiscT.accepts [.adv 100, .disc, .adv 5000, .adv 1] = false := by decide
example : (TraceDiscT.obs [.adv 100, .disc, .adv 4999]).2 = some 100 := by decide

end ComposedModel

end Mqtt5V.Props.C09
