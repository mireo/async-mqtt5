import Mqtt5V.Proofs.TraceQuota
import Mqtt5V.Model.SerialOrder
import Mqtt5V.Proofs.Sender
/-! # C06 — PUBLISH packets leave in initiation order, also when retransmitted (ordering core)

The re-send order is decided by `write_req::operator<` and `std::stable_sort`.  While every serial
number in the queue is below 2³¹ (fewer than 2³¹ publishes initiated on the client object; `no_serial = 0`
of non-publish requests included) the comparator is the lexicographic strict weak order
(prioritized first, then serial), the sort has no inversion, is a permutation and is stable — so
PUBLISH requests come out in serial = initiation order.  Across 2³¹ the comparator is cyclic
(`lt_not_transitive_across_wrap`), which is why the theorem carries the hypothesis (`_partial`). -/
namespace Mqtt5V.Props.C06
open Mqtt5V.Model.SerialOrder

/-- lexicographic order: prioritized first, then by serial -/
def lexLt (a b : Req) : Bool :=
  if a.prio != b.prio then a.prio else decide (a.serial < b.serial)

def lexLe (a b : Req) : Bool := !lexLt b a

def InWindow (q : List Req) : Prop := ∀ r ∈ q, r.serial < HALF

theorem lt_eq_lex_below_wrap (a b : Req) (ha : a.serial < HALF) (hb : b.serial < HALF) : lt a b = lexLt a b := by
  -- the difference of two serials of the window is at most the larger one, so below `HALF`, and so is what the uint32 subtraction
  -- gives: its top bit is clear, and each branch of `operator<` answers what the plain comparison it has just made answers
  have hd : ∀ {x} y, x < HALF → (x - y) % WRAP < HALF := fun y hx =>
    Nat.lt_of_le_of_lt (Nat.le_trans (Nat.mod_le _ _) (Nat.sub_le _ y)) hx
  unfold lt lexLt
  split
  · rfl
  · split
    · next h => simp [h, hd a.serial hb]
    · next h => simp [h, Nat.not_le.mpr (hd b.serial ha)]

theorem lexLe_trans (a b c : Req) : lexLe a b = true → lexLe b c = true → lexLe a c = true := by
  unfold lexLe lexLt
  cases a.prio <;> cases b.prio <;> cases c.prio <;> simp <;> omega

theorem lexLe_total (a b : Req) : (lexLe a b || lexLe b a) = true := by
  unfold lexLe lexLt
  cases a.prio <;> cases b.prio <;> simp <;> omega

theorem sort_eq_lex (q : List Req) (hw : InWindow q) : sortQueue q = q.mergeSort lexLe := by
  -- `map_mergeSort` at `f := id` serves as a congruence: comparators that agree on the elements of `q` sort it alike
  have := List.map_mergeSort (r := le) (s := lexLe) (f := id) (l := q) (by
    intro a ha b hb
    simp only [le, lexLe, id]
    rw [lt_eq_lex_below_wrap b a (hw b hb) (hw a ha)])
  simpa [sortQueue] using this

/-- **The comparator is a strict weak order on the window**: irreflexive, transitive, and
incomparability is transitive (stated through the total preorder `le`). -/
theorem lt_strict_weak_on_window (a b c : Req) (ha : a.serial < HALF) (hb : b.serial < HALF) (hc : c.serial < HALF) :
    lt a a = false ∧ (lt a b = true → lt b c = true → lt a c = true) ∧
    (le a b = true → le b c = true → le a c = true) ∧ (le a b || le b a) = true := by
  simp only [le, lt_eq_lex_below_wrap, ha, hb, hc]
  refine ⟨by simp [lexLt], fun hab hbc => ?_, lexLe_trans a b c, lexLe_total a b⟩
  -- the strict part of a total preorder is transitive: otherwise `c ≤ a`; `a ≤ b` since `b ≤ a` fails; so `c ≤ b`, against `b < c`
  cases hac : lexLt a c with
  | true => rfl
  | false =>
    have hab' : lexLe a b = true := by simpa [lexLe, hab] using lexLe_total a b
    simpa [lexLe, hbc] using lexLe_trans c a b (by simp [lexLe, hac]) hab'

/-- the re-send sort is a permutation of the queue: nothing is dropped or duplicated -/
theorem resend_sort_perm (q : List Req) : (sortQueue q).Perm q := List.mergeSort_perm q le

/-- **No inversion after the re-send sort** (queue inside the window): prioritized requests (PUBREL)
first, and for equal priority a request never precedes one with a smaller serial number. -/
theorem resend_sorted_partial (q : List Req) (hw : InWindow q) :
    (sortQueue q).Pairwise (fun a b => lexLt b a = false) := by
  rw [sort_eq_lex q hw]
  have := List.pairwise_mergeSort (le := lexLe) lexLe_trans lexLe_total q
  exact this.imp (by intro a b h; simpa [lexLe] using h)

/-- **Stability**: two requests that are not out of order keep their relative position. -/
theorem resend_stable_partial (q : List Req) (hw : InWindow q) (a b : Req)
    (hab : lexLt b a = false) (h : [a, b].Sublist q) : [a, b].Sublist (sortQueue q) := by
  rw [sort_eq_lex q hw]
  exact List.pair_sublist_mergeSort lexLe_trans lexLe_total (by simp [lexLe, hab]) h

/-- **PUBLISH requests come out in initiation order**: for two non-prioritized requests with
serials `s₁ < s₂` (serial numbers are handed out in initiation order), the later one never precedes
the earlier one after the re-send sort, whatever the order they re-entered the queue in. -/
theorem publish_order_after_resend_partial (q : List Req) (hw : InWindow q) (a b : Req)
    (hpa : a.prio = false) (hpb : b.prio = false) (hs : a.serial < b.serial) :
    ¬ [b, a].Sublist (sortQueue q) := by
  intro hsub
  -- `a` is before `b` in the order, and the sorted queue has no such pair the other way round
  have hlt : lexLt a b = true := by simp [lexLt, hpa, hpb, hs]
  have hnlt := List.pairwise_pair.mp ((resend_sorted_partial q hw).sublist hsub)
  exact Bool.false_ne_true (hnlt.symm.trans hlt)

/-- Why the hypothesis is needed (suspected defect F9): across 2³¹ the comparator is cyclic,
so it is not a strict weak order and `std::stable_sort` may reorder PUBLISHes. -/
theorem lt_not_transitive_across_wrap :
    let z : Req := ⟨0, false, 0⟩              -- a non-publish request (`no_serial`)
    let a : Req := ⟨1, false, 2 ^ 31 - 1⟩
    let b : Req := ⟨2, false, 2 ^ 31 + 1⟩
    lt z a = true ∧ lt a b = true ∧ lt b z = true := by
  decide

open Mqtt5V.Model.Sender Mqtt5V.Proofs.Sender in
/-- the re-send sort of the sender model is the comparator sort of this file on (prioritized, serial) -/
theorem sender_sort_is_comparator_sort (q : List SReq) : (sortReqs q).map toReq = sortQueue (q.map toReq) := by
  unfold sortReqs sortQueue
  exact List.map_mergeSort (fun a _ b _ => rfl)

open Mqtt5V.Model.Sender Mqtt5V.Proofs.Sender in
/-- **every write batch is an order-preserving subsequence of the queue** and what stays behind keeps its order too
(throttled split); with no Receive Maximum the whole queue is written as it stands -/
theorem batch_is_order_preserving_subsequence (q : List SReq) (k : Nat) :
    (split q k).1.Sublist q ∧ (split q k).2.1.Sublist q ∧ ((split q k).1 ++ (split q k).2.1).Perm q :=
  ⟨split_batch_sublist q k, split_rest_sublist q k, split_perm q k⟩

open Mqtt5V.Model.Sender in
/-- **a failed batch is put back in front of later requests** before everything is re-sent: after `try_again` the
requests re-enter as unanswered ++ batch ++ queue and are then sorted (stable) -/
theorem failed_batch_back_in_front (s : S) (b : List SReq) (h : s.inflight = some b) :
    (step s (.wdone .tryAgain)).1 =
      (doWrite { s with inflight := none, queue := sortReqs (s.unanswered ++ (b ++ s.queue)), unanswered := [], limit := s.rm.getD MAX_LIMIT, quota := s.rm.getD MAX_LIMIT }).1 := by
  rw [Proofs.Sender.step_wdone_tryAgain h]

/-- non-vacuity: a window queue with a PUBREL, two PUBLISHes out of order and a SUBSCRIBE meets the hypotheses -/
example : InWindow [⟨0, false, 7⟩, ⟨1, false, 0⟩, ⟨2, false, 5⟩, ⟨3, true, 6⟩] ∧
    [(⟨0, false, 7⟩ : Req), ⟨2, false, 5⟩].Sublist [⟨0, false, 7⟩, ⟨1, false, 0⟩, ⟨2, false, 5⟩, ⟨3, true, 6⟩] :=
  ⟨by unfold InWindow HALF; decide, by decide⟩

/-! ## the composed client model (`Model/Trace.lean`)
The same labelled transition system as in C01/C03/C05/C07/C08 (tie: every H-client transcript of the real client must be accepted,
`lib/trace_check.py`); the operations are numbered by the front end in the order of their API calls. -/
section ComposedModel
open Mqtt5V.Model

/-- **C06 end to end, every accepted history**: after every prefix, the QoS 1/2 PUBLISH packets written on the current connection
(`Trace.pubsOf`, read off the events alone: the operation numbers of the PUBLISH events since the last `connUp`) are strictly increasing,
i.e. they left in the order in which their `async_publish` calls were initiated — first transmissions and retransmissions alike,
whatever throttling, acknowledgements and reconnects lie in between (the serial-number window of the known finding F9 is a property of
the comparator, not of this model) -/
theorem composed_publish_order (tr pre post : List Trace.Ev) (hacc : Trace.accepts tr = true) (hsplit : tr = pre ++ post) :
    (Trace.pubsOf pre).Pairwise (· < ·) :=
  Mqtt5V.Proofs.Trace.publish_order hacc pre post hsplit

example : Trace.accepts [.init 1 .pub1 1, .init 2 .pub1 1, .connUp (some 1), .wr, .pk (.publish 1 1 7 false 3), .wrOk, .connUp none, .wr,
    .pk (.publish 1 1 7 true 3), .pk (.publish 2 1 8 false 4)] = true := by decide
example : Trace.accepts [.init 1 .pub1 1, .init 2 .pub1 1, .connUp (some 1), .wr, .pk (.publish 1 1 7 false 3), .wrOk, .connUp none, .wr,
    .pk (.publish 2 1 8 false 4), .pk (.publish 1 1 7 true 3)] = false := by decide

end ComposedModel

end Mqtt5V.Props.C06
