import Mqtt5V.Proofs.TraceTruth
import Mqtt5V.Model.Verdict
import Mqtt5V.Proofs.Replies
/-! # C14 — SUBSCRIBE/UNSUBSCRIBE complete with exactly the broker's per-topic verdicts (matching + verdict core)

* matching: SUBACK / UNSUBACK are routed to their waiter by (control code, packet identifier) exactly like the
  publish acknowledgements (`Proofs.Replies.dispatch_completes_only_matching_waiter`, instantiated below);
* verdicts: the model of the check the operation applies to the decoded acknowledgement surfaces success only when
  the acknowledgement carried exactly one reason code per requested topic and every code is admissible for the
  packet type — and then the handler's codes are the acknowledgement's codes, unchanged and in order. -/
namespace Mqtt5V.Props.C14
open Mqtt5V Mqtt5V.Model.Verdict Mqtt5V.Model.ReasonCode

/-- **Wrong count or inadmissible code ⇒ never success; success ⇒ the acknowledgement's codes, one per topic, in order** -/
theorem verdict_success_iff (cat : Category) (n : Nat) (codes v : List Nat) :
    verdict cat n codes = some v ↔ (codes.length = n ∧ (∀ c ∈ codes, admitted cat c = true) ∧ v = codes) := by
  -- filtering keeps the length exactly when it keeps everything
  have key : (codes.filter (admitted cat)).length = codes.length ↔ ∀ c ∈ codes, admitted cat c = true :=
    List.length_filter_eq_length_iff
  simp only [verdict, toReasonCodes]
  by_cases hn : codes.length = n
  · subst hn
    simp only [bne_self_eq_false, Bool.false_or, bne_iff_ne, ne_eq, ite_not, true_and]
    split
    · rename_i h
      rw [List.filter_eq_self.mpr (key.mp h), Option.some.injEq]
      exact ⟨fun e => ⟨key.mp h, e.symm⟩, fun e => e.2.symm⟩
    · rename_i h
      simp only [reduceCtorEq, false_iff, not_and]
      exact fun hall => absurd (key.mpr hall) h
  · simp [hn]

theorem bad_ack_never_success (cat : Category) (n : Nat) (codes : List Nat)
    (h : codes.length ≠ n ∨ ∃ c ∈ codes, admitted cat c = false) : verdict cat n codes = none := by
  cases hv : verdict cat n codes with
  | none => rfl
  | some v =>
    obtain ⟨h1, h2, _⟩ := (verdict_success_iff cat n codes v).mp hv
    rcases h with h | ⟨c, hc, hna⟩
    · exact absurd h1 h
    · rw [h2 c hc] at hna; cases hna

/-- the admission used here is the C20 lookup: an admitted code is one MQTT 5 lists for SUBACK / UNSUBACK -/
theorem admitted_iff_hit (cat : Category) (c : Nat) : admitted cat c = true ↔ ∃ v, toReasonCode cat c = .hit v := by
  unfold admitted
  cases toReasonCode cat c <;> simp

/-- SUBACK / UNSUBACK reach only the waiter registered for (0x90 / 0xB0, the request's packet identifier) -/
theorem suback_routed_by_code_and_id (r : Model.Replies.R) (code p t : Nat) :
    (Model.Replies.step r (.dispatch code p t)).2 = [] ∨
    ∃ h ∈ r.handlers, h.code = code ∧ h.pid = p ∧ (Model.Replies.step r (.dispatch code p t)).2 = [⟨h.w, .ok, t⟩] :=
  Proofs.Replies.dispatch_completes_only_matching_waiter r code p t

/-- non-vacuity and the repaired defect as a fact about the model: 3 codes (one invalid) for 2 topics is not success -/
example : verdict .suback 2 [0x00, 0xFF, 0x01] = none ∧ verdict .suback 2 [0x00, 0x87] = some [0x00, 0x87] := by decide

/-! ## the composed client model (`Model/Trace.lean`; tie: every H-client transcript of the real client must be accepted; see `Props/C01`) -/
section ComposedModel
open Mqtt5V.Model

/-- **C14 end to end, every accepted history**: when an `async_subscribe` / `async_unsubscribe` of `n` topics completes without error
with reason codes `rcs`, then earlier its SUBSCRIBE / UNSUBSCRIBE was written with a non-zero identifier `p`, after that a well-formed
SUBACK / UNSUBACK for `p` was read, and `rcs` are exactly the codes of that acknowledgement: one per topic, all admissible
(`goodAck` = `Verdict.verdict … = some …`), and `props` are its properties. -/
theorem composed_subscribe_success_truthful (pre post : List Trace.Ev) (op : Nat) (rcs : List Nat) (props : Nat)
    (hacc : Trace.accepts (pre ++ Trace.Ev.doneOk op rcs props :: post) = true) :
    ∃ p k n, Trace.Ev.init op k n ∈ pre ∧ p ≠ 0 ∧ Trace.Truthful pre op p k n rcs props :=
  Mqtt5V.Proofs.Trace.success_truthful hacc

/-- what `goodAck` means for the codes handed over: exactly one per requested topic, each admitted by the category table -/
theorem composed_good_ack_codes (a : Trace.Ack) (n : Nat) (h : Trace.goodAck a n = true) :
    a.wf = true ∧ a.rcs.length = n ∧ ∀ c ∈ a.rcs, admitted a.t.cat c = true := by
  simp only [Trace.goodAck, Bool.and_eq_true, Option.isSome_iff_exists] at h
  obtain ⟨hw, v, hv⟩ := h
  obtain ⟨h1, h2, -⟩ := (verdict_success_iff _ _ _ _).1 hv
  exact ⟨hw, h1, h2⟩

example : Trace.accepts [.init 1 .sub 2, .connUp none, .wr, .pk (.subscribe 1 9 4), .wrOk, .rx ⟨.suback, 9, [1, 0x87], 2, true⟩,
    .doneOk 1 [1, 0x87] 2] = true := by decide
/-- a SUBACK with a wrong number of codes, or an inadmissible one, never leads to a success -/
example : Trace.accepts [.init 1 .sub 2, .connUp none, .wr, .pk (.subscribe 1 9 4), .wrOk, .rx ⟨.suback, 9, [1], 2, true⟩,
    .doneOk 1 [1] 2] = false := by decide
example : Trace.accepts [.init 1 .sub 1, .connUp none, .wr, .pk (.subscribe 1 9 4), .wrOk, .rx ⟨.suback, 9, [0xFF], 2, true⟩,
    .doneOk 1 [0xFF] 2] = false := by decide

end ComposedModel

end Mqtt5V.Props.C14
