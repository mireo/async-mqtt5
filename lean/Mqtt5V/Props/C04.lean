import Mqtt5V.Proofs.TraceInDeliver
import Mqtt5V.Proofs.Replies
/-! # C04 — inbound QoS 2 exactly once (waiter core)

A received QoS 2 PUBLISH waits for its PUBREL through a `replies` waiter keyed (PUBREL, packet id).  In the model of
`replies`: registering a waiter for a key that already has one *replaces* it — the earlier exchange is aborted and can
no longer deliver its message, so a retransmitted PUBLISH with the same identifier never leads to two deliveries;
an arriving PUBREL completes exactly the one current waiter; when the session is not resumed, exactly the PUBREL
waiters are aborted and all other waiters are kept. -/
namespace Mqtt5V.Props.C04
open Mqtt5V.Model.Replies Mqtt5V.Proofs.Replies

/-- **a duplicate waiter for the same (code, id) replaces the old one**: the old waiter is aborted, the new one is the only
one registered for that key afterwards (or is served by a stored reply) -/
theorem duplicate_waiter_replaced (r : R) (w c p : Nat) (d : Waiter) (hd : r.handlers.find? (sameKey c p) = some d)
    (hn : KeysUnique r) (hw : d.w ≠ w) :
    (⟨d.w, .aborted, 0⟩ : Ev) ∈ (step r (.wait w c p)).2 ∧ d ∉ (step r (.wait w c p)).1.handlers := by
  obtain ⟨hm, hc, hp⟩ := find_sameKey hd
  have hne := erase_removes_key hn hm
  have hnot : d ∉ r.handlers.erase d := fun hin => hne (List.mem_map_of_mem hin)
  simp only [step, hd]
  constructor
  · split <;> simp
  · split
    · exact hnot
    · intro hin
      simp only [List.mem_append, List.mem_singleton] at hin
      rcases hin with h | h
      · exact hnot h
      · exact hw (by rw [h])

/-- when the session is not resumed exactly the PUBREL waiters are aborted; every other waiter is kept -/
theorem clear_pending_pubrels_exact (r : R) :
    (step r .clearPubrels).1.handlers = r.handlers.filter (fun h => h.code != PUBREL) ∧
    (step r .clearPubrels).2 = (r.handlers.filter (fun h => h.code == PUBREL)).map (fun h => ⟨h.w, .aborted, 0⟩) := ⟨rfl, rfl⟩

/-- an arriving PUBREL completes at most one waiter and it is one registered for exactly (PUBREL, that id) -/
theorem pubrel_completes_its_waiter_only (r : R) (p t : Nat) :
    (step r (.dispatch PUBREL p t)).2 = [] ∨
    ∃ h ∈ r.handlers, h.code = PUBREL ∧ h.pid = p ∧ (step r (.dispatch PUBREL p t)).2 = [⟨h.w, .ok, t⟩] :=
  dispatch_completes_only_matching_waiter r PUBREL p t

/-! ## the composed client model, inbound side (`Model/TraceIn.lean`)
One labelled transition system for the path of a PUBLISH the broker delivers (`read_message_op` → `publish_rec_op` → send queue / reply
map → receive channel → `async_receive`).  The tie: `lib/trace_check.py` replays every H-client transcript of the real client through the
compiled model (`mdrv tracein`).  The theorem holds for EVERY event list the model accepts. -/
section ComposedModel
open Mqtt5V.Model

/-- **C04 end to end, every accepted history**, per broker packet identifier `p` and after every prefix: at most as many PUBACKs written as
QoS 1 PUBLISHes received for `p`; at most as many PUBRECs as QoS 2 PUBLISHes; at most as many PUBCOMPs as well-formed PUBRELs received —
never a PUBCOMP before its PUBREL; and at most as many QoS 2 messages of `p` handed to the application as PUBRELs received: a PUBLISH the
broker repeats (DUP) before its PUBREL, on the same or a later connection, is not delivered a second time -/
theorem composed_inbound_acks_justified (tr pre post : List TraceIn.Ev) (hacc : TraceIn.accepts tr = true) (hsplit : tr = pre ++ post) (p : Nat) :
    TraceIn.cnt (TraceIn.isPuback p) pre ≤ TraceIn.cnt (TraceIn.isRxPub 1 p) pre ∧
    TraceIn.cnt (TraceIn.isPubrec p) pre ≤ TraceIn.cnt (TraceIn.isRxPub 2 p) pre ∧
    TraceIn.cnt (TraceIn.isPubcomp p) pre ≤ TraceIn.cnt (TraceIn.isGoodRel p) pre ∧
    TraceIn.cnt (TraceIn.isDeliver2 p) pre ≤ TraceIn.cnt (TraceIn.isGoodRel p) pre :=
  Mqtt5V.Proofs.TraceIn.inbound_acks_justified hacc pre post hsplit p

/-- **C04 end to end (content)**: after every prefix, a message has been handed to the application at most as often as a PUBLISH with
exactly this QoS, packet identifier and content (`msg` = identity of topic, payload and properties; the front end numbers real messages from 1,
`0` is the session_expired item of C13) was received: nothing is delivered that
the broker did not send, nothing is altered on the way, and the client's own queues never duplicate a message -/
theorem composed_delivered_was_received (tr pre post : List TraceIn.Ev) (hacc : TraceIn.accepts tr = true) (hsplit : tr = pre ++ post) (q p m : Nat) (hm : m ≠ 0) :
    TraceIn.cnt (TraceIn.isDeliverMsg q p m) pre ≤ TraceIn.cnt (TraceIn.isRxPubMsg q p m) pre := by
  open Mqtt5V.Proofs.TraceIn in
  -- the ledger: deliveries of (q, p, m) against PUBLISHes of it, with `hold`, how often the client holds the message, in between
  exact count_le (TraceIn.isDeliverMsg q p m) (TraceIn.isRxPubMsg q p m) (fun s => hold s s.batch q p m) (by simp [hold, held, TraceIn.init])
    (fun h => hold_step h q p m (by simp [isM, Ne.symm hm])) hacc hsplit

/-- **C04 end to end (order)**: after every prefix, the QoS 0 messages handed to the application are, in this order, a subsequence of the
QoS 0 messages received, and the same holds for QoS 1: within one of these QoS levels messages are never reordered (the send queue hands
the PUBACKs to the stream first in, first out; the receive channel is first in, first out). QoS 2 messages are released by their PUBRELs;
their order is the order of the broker's PUBRELs and is left to the monitor. -/
theorem composed_delivered_in_arrival_order (tr pre post : List TraceIn.Ev) (hacc : TraceIn.accepts tr = true) (hsplit : tr = pre ++ post) :
    (TraceIn.delivered 0 pre).Sublist (TraceIn.received 0 pre) ∧ (TraceIn.delivered 1 pre).Sublist (TraceIn.received 1 pre) := by
  open Mqtt5V.Proofs.TraceIn in
  -- `delivered q` / `received q` are `filterMap (dlvMsg q)` / `filterMap (rxMsg q)` by definition; in between, per lane, the messages on their
  -- way: for QoS 0 those in the channel, for QoS 1 `seq1`
  exact ⟨sublist_le (dlvMsg 0) (rxMsg 0) (fun s => s.stored.filterMap (msgOf 0)) rfl (fun h => (ord_step h).1) hacc hsplit,
    sublist_le (dlvMsg 1) (rxMsg 1) seq1 rfl (fun h => (ord_step h).2) hacc hsplit⟩

/-- two PUBACKs written in the wrong order (and the deliveries that follow them) are refused -/
example : TraceIn.accepts [.connUp true, .rxPub 1 7 1, .rxPub 1 8 2, .wr, .pk (.puback 8), .pk (.puback 7)] = false := by decide
example : TraceIn.accepts [.connUp true, .rxPub 1 7 1, .rxPub 1 8 2, .wr, .pk (.puback 7), .pk (.puback 8), .wrOk, .deliver 1 7 1, .deliver 1 8 2] = true := by decide

/-- non-vacuity: a QoS 2 message repeated by the broker after a reconnect (the first PUBREC was lost with the connection) is delivered once … -/
example : TraceIn.accepts [.connUp true, .rxPub 2 7 1, .wr, .pk (.pubrec 7), .connUp true, .wrFail, .rxPub 2 7 1, .wr, .pk (.pubrec 7), .wrOk,
    .rxRel 7 true, .wr, .pk (.pubcomp 7), .wrOk, .deliver 2 7 1] = true := by decide
/-- … a second delivery, a PUBCOMP without PUBREL, or a delivery before the PUBCOMP was written are refused -/
example : TraceIn.accepts [.connUp true, .rxPub 2 7 1, .wr, .pk (.pubrec 7), .wrOk, .rxPub 2 7 1, .wr, .pk (.pubrec 7), .wrOk,
    .rxRel 7 true, .wr, .pk (.pubcomp 7), .wrOk, .deliver 2 7 1, .deliver 2 7 1] = false := by decide
example : TraceIn.accepts [.connUp true, .rxPub 2 7 1, .wr, .pk (.pubrec 7), .wrOk, .wr, .pk (.pubcomp 7)] = false := by decide
example : TraceIn.accepts [.connUp true, .rxPub 2 7 1, .wr, .pk (.pubrec 7), .wrOk, .rxRel 7 true, .deliver 2 7 1] = false := by decide

/-! ### the recorded findings F24, F25, F26 inside the model
The statement of C04 also has a liveness half ("every PUBLISH the broker delivers … reaches async_receive"). It is false of the code, and the
model agrees with the code: when the write that carries an acknowledgement ends with try_again, the QoS 1 operation and the PUBREC stage give
the message up and the PUBCOMP stage waits for a PUBREL. If the acknowledgement did reach the broker — the model does not know, the client
does not know — nothing will ever bring the message back. The witnesses below are the model-side replays of `lib/directed.py` F25 / F24 / F26
(the implementation-side replays run first in `vcheck C04` and are reported as KNOWN-FINDING). -/

/-- F25: QoS 1, the PUBACK was in a write that failed — the message cannot be delivered any more (only a repeated PUBLISH brings it back) -/
example : TraceIn.accepts [.connUp true, .rxPub 1 7 1, .wr, .pk (.puback 7), .connUp true, .wrFail] = true := by decide
example : TraceIn.accepts [.connUp true, .rxPub 1 7 1, .wr, .pk (.puback 7), .connUp true, .wrFail, .deliver 1 7 1] = false := by decide
/-- F24: QoS 2, the PUBREC was in a write that failed — a PUBREL that follows (the PUBREC did arrive) is not answered: no PUBCOMP can be written -/
example : TraceIn.accepts [.connUp true, .rxPub 2 7 1, .wr, .pk (.pubrec 7), .connUp true, .wrFail, .rxRel 7 true, .wr, .pk (.pubcomp 7)] = false := by decide
/-- F26: QoS 2, the PUBCOMP was in a write that failed — the message stays with the waiter until another PUBREL arrives -/
example : TraceIn.accepts [.connUp true, .rxPub 2 7 1, .wr, .pk (.pubrec 7), .wrOk, .rxRel 7 true, .wr, .pk (.pubcomp 7), .connUp true, .wrFail,
    .deliver 2 7 1] = false := by decide
example : TraceIn.accepts [.connUp true, .rxPub 2 7 1, .wr, .pk (.pubrec 7), .wrOk, .rxRel 7 true, .wr, .pk (.pubcomp 7), .connUp true, .wrFail,
    .rxRel 7 true, .wr, .pk (.pubcomp 7), .wrOk, .deliver 2 7 1] = true := by decide

/-- **C04, liveness half — `_partial`** (full statement: "every PUBLISH the broker delivers … reaches async_receive"; proved part: under the
hypothesis that the write carrying the final acknowledgement completes successfully): when the write that carries the PUBACK of a QoS 1
message, or the PUBCOMP of a QoS 2 message, completes successfully, the message is in the receive channel. What is missing is exactly the
recorded findings F24–F26 (the write ends with try_again although the acknowledgement reached the broker), witnessed above. -/
theorem composed_acknowledged_is_stored_partial (s s' : TraceIn.S) (h : TraceIn.step s TraceIn.Ev.wrOk = some s') (p m : Nat) :
    (TraceIn.Item.ackI p m ∈ s.batch → (1, p, m) ∈ s'.stored) ∧ (TraceIn.Item.compI p m ∈ s.batch → (2, p, m) ∈ s'.stored) := by
  open Mqtt5V.Proofs.TraceIn in
  cases Step.of_step h
  -- the channel after the write is the channel before it followed by the messages of the batch, in write order
  simp only [Mqtt5V.Proofs.TraceIn.drainOk_stored, List.mem_append, List.mem_filterMap]
  exact ⟨fun hm => .inr ⟨_, hm, rfl⟩, fun hm => .inr ⟨_, hm, rfl⟩⟩

end ComposedModel

end Mqtt5V.Props.C04
