import Mqtt5V.Proofs.TraceDup
import Mqtt5V.Proofs.Sender
import Mqtt5V.Model.Replies
/-! # C02 — no silent loss (conservation core)

* sender: a write batch and what stays queued are together a permutation of the queue (nothing dropped, nothing
  duplicated); when a write fails with `try_again` every unanswered request, the failed batch and the whole queue
  are re-queued for the new connection; no request is ever finished with `try_again`;
* replies: `resend_unanswered` hands `try_again` to every waiter exactly once, so each operation re-sends. -/
namespace Mqtt5V.Props.C02
open Mqtt5V.Model.Sender Mqtt5V.Proofs.Sender

/-- `do_write` neither drops nor duplicates: (new in-flight batch ++ new queue) is a permutation of (old in-flight ++ old queue) -/
theorem doWrite_conserves (s : S) :
    (((doWrite s).1.inflight.getD []) ++ (doWrite s).1.queue).Perm ((s.inflight.getD []) ++ s.queue) := by
  rw [doWrite_eq]
  split
  next hc => simpa [hc.1] using (pick_partition s).2.2
  next => exact .refl _

/-- **after a failed write everything is re-queued**: unanswered requests, the failed batch and the queue all re-enter
(sorted) for the new connection; nothing is forgotten and nothing is awaited on the dead connection any more -/
theorem failed_write_requeues_everything (s : S) (b : List SReq) (h : s.inflight = some b) :
    let s' := (step s (.wdone .tryAgain)).1
    ((s'.inflight.getD []) ++ s'.queue).Perm (s.unanswered ++ (b ++ s.queue)) ∧ s'.unanswered = [] := by
  intro s'
  have hs : s' = (doWrite _).1 := congrArg Prod.fst (step_wdone_tryAgain h)
  rw [hs]
  exact ⟨(doWrite_conserves _).trans (List.mergeSort_perm _ _), (doWrite_other _).1⟩

/-- **no request is finished with a transport "try again"**: such a result only ever leads to a re-send -/
theorem try_again_never_surfaces (s : S) (i : In) : ∀ id, Ev.done id .tryAgain ∉ (step s i).2 := by
  intro id
  -- `doWrite` and `resend` emit nothing but `.wr` (`doWrite_events`, `resend_events`); the `.done` events `step` builds itself carry a
  -- literal `ok`, `aborted` or `noRecovery`, which is all the closing `simp`s below look at
  have hwr : ∀ {l : List Ev}, (∀ e ∈ l, ∃ ids, e = .wr ids) → Ev.done id .tryAgain ∉ l := by
    intro l h hm
    obtain ⟨_, h⟩ := h _ hm
    cases h
  cases i with
  | send r => exact hwr (doWrite_events _)
  | wdone ec =>
    simp only [step]
    split
    · exact List.not_mem_nil
    · cases ec with
      | ok => simp [hwr (doWrite_events _)]
      | tryAgain => exact hwr (resend_events _)
      | aborted => simp
      | noRecovery => simp
  | ack id' =>
    simp only [step]
    split
    · exact List.not_mem_nil
    · split <;> simp [hwr (doWrite_events _)]
  | setRm rm => exact List.not_mem_nil
  | resendRead => exact hwr (resend_events _)
  | cancel => simp [step]

/-- `resend_unanswered()`: every waiter receives `try_again` exactly once (in registration order) and none is kept -/
theorem replies_resend_reaches_every_waiter (r : Model.Replies.R) :
    (Model.Replies.step r .resendUnanswered).2 = r.handlers.map (fun h => ⟨h.w, .tryAgain, 0⟩) ∧
    (Model.Replies.step r .resendUnanswered).1.handlers = [] := ⟨rfl, rfl⟩

/-! ## the composed client model (`Model/Trace.lean`; tie: every H-client transcript of the real client must be accepted) -/
section ComposedModel
open Mqtt5V.Model

/-- **C02 (retransmission half) end to end, every accepted history**: every transmission of an operation's request — on whatever connection,
after whatever losses — carries the same packet identifier and the same bytes (DUP masked). (That an accepted request is eventually
retransmitted and completed is liveness: the healing-suffix monitor.) -/
theorem composed_retransmission_same_identifier_and_bytes (tr : List Trace.Ev) (hacc : Trace.accepts tr = true) (op p1 p2 b1 b2 : Nat)
    (u1 : Trace.usesPid tr op p1) (u2 : Trace.usesPid tr op p2) (v1 : Trace.usesBody tr op b1) (v2 : Trace.usesBody tr op b2) : p1 = p2 ∧ b1 = b2 :=
  ⟨(Mqtt5V.Proofs.Trace.pid_stable hacc u1 u2).1, Mqtt5V.Proofs.Trace.retransmission_identical hacc v1 v2⟩

/-- a success is never reported for a request that was not (re)transmitted and acknowledged: see `Props/C01`, `Props/C14` -/
example : Trace.accepts [.init 1 .sub 1, .connUp none, .wr, .pk (.subscribe 1 9 4), .wrFail, .connUp none, .wr, .pk (.subscribe 1 9 4), .wrOk,
    .rx ⟨.suback, 9, [0], 0, true⟩, .doneOk 1 [0] 0] = true := by decide
example : Trace.accepts [.init 1 .sub 1, .connUp none, .wr, .pk (.subscribe 1 9 4), .wrFail, .connUp none, .wr, .pk (.subscribe 1 10 4)] = false := by decide

end ComposedModel

end Mqtt5V.Props.C02
