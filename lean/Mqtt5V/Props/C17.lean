import Mqtt5V.Proofs.TraceContent
import Mqtt5V.Proofs.Enc
/-! # C17 — every packet written is well-formed MQTT 5 and says exactly what was asked (encoder level)

`Spec.Wire.decode` is a strict MQTT 5 decoder written from the standard.  For every packet value `p` of a
type the client sends (CONNECT, PUBLISH, PUBACK / PUBREC / PUBREL / PUBCOMP, SUBSCRIBE, UNSUBSCRIBE, PINGREQ,
DISCONNECT, AUTH) that satisfies the explicit well-formedness predicate of its type (`WFConnect`, `WFPublish`, …:
lengths and ranges that fit their wire fields, properties the packet type may carry, non-repeatable ones at most once):
`Spec.Wire.decode (Enc.encode p) = some p` — correct fixed-header flags, Remaining Length equal to the
actual body size, only allowed properties, decoded fields equal to the values supplied.  And for *all*
packet values, of any type, well-formed or not, the declared Remaining Length is the length of the encoded body. -/
namespace Mqtt5V.Props.C17
open Mqtt5V.Wire Mqtt5V.Model.Enc Mqtt5V.Spec.Wire Mqtt5V.Proofs.Enc

/-- from "the declared size is the body's length" (the `*Body_length` facts) to the shape of `remaining_length_is_body_size` -/
theorem packet_eq (b0 d : Nat) (body : Bs) (h : body.length = d) :
    ∃ b0' body', packet b0 d body = packet b0' body'.length body' := ⟨b0, body, by rw [h]⟩

/-- **`byte_size()` and `encode()` agree for every combinator and every packet**: the size written into the
fixed header is the length of the body that follows, for all field values. -/
theorem remaining_length_is_body_size (p : Packet) :
    ∃ b0 body, encode p = packet b0 body.length body := by
  cases p with
  | connect c u pw ka cs ps w => exact packet_eq _ _ _ (connectBody_length c u pw ka cs ps w)
  | publish pid t pl q r d ps => exact packet_eq _ _ _ (publishBody_length ..)
  | puback pid rc ps | pubrec pid rc ps | pubrel pid rc ps | pubcomp pid rc ps => exact packet_eq _ _ _ (ackBody_length pid rc ps)
  | subscribe pid ts ps => exact packet_eq _ _ _ (subscribeBody_length pid ts ps)
  | unsubscribe pid ts ps => exact packet_eq _ _ _ (unsubscribeBody_length pid ts ps)
  | disconnect rc ps | auth rc ps => exact packet_eq _ _ _ (rcBody_length rc ps)
  | connack _ _ ps | suback _ _ ps | unsuback _ _ ps => apply packet_eq; simp [propsEncode_length]; omega
  | pingreq => exact ⟨0xC0, [], rfl⟩
  | pingresp => exact ⟨0xD0, [], rfl⟩

/-- **Variable Byte Integer**: every value up to 268 435 455 is written in the minimal form the strict parser accepts -/
theorem varint_roundtrip (n : Nat) (h : n ≤ 268435455) (r : Bs) : pVarint (toVariableBytes n ++ r) = some (n, r) :=
  pVarint_roundtrip h r

theorem decode_packet (b0 n : Nat) (body : Bs) (hb : b0 < 256) (hn : body.length = n) (hsz : n ≤ 268435455) :
    decode (packet b0 n body) = decodeBody b0 body := by
  subst hn
  simp only [packet, Nat.mod_eq_of_lt hb, decode, if_neg (Nat.not_le.mpr hb), pVarint_roundtrip hsz, if_true]

theorem propsEncode_true_cons (p : Property) (ps : Props) : propsEncode true (p :: ps) = propsEncode false (p :: ps) := by
  simp [propsEncode, propsBodySize, propSize]

/-- well-formed PUBACK / PUBREC / PUBREL / PUBCOMP fields -/
structure WFAck (pid rc : Nat) (ps : Props) : Prop where
  pid : 1 ≤ pid ∧ pid < 65536
  rc : rc < 256
  props : WFProps allowedAck [userProp] ps

theorem ackBody_roundtrip (pid rc : Nat) (ps : Props) (h : WFAck pid rc ps) :
    pAckBody (be16 pid ++ [rc % 256] ++ propsEncode true ps) = some (pid, rc, ps) := by
  have hpid : pid ≠ 0 := by have := h.pid; omega
  simp only [pAckBody, List.append_assoc, pU16_be16 h.pid.2, hpid, if_false, List.singleton_append, Nat.mod_eq_of_lt h.rc, pU8,
    h.rc, if_true]
  cases ps with
  | nil => rfl
  | cons p ps =>
    obtain ⟨x, xs, hx, hr⟩ := pProps_last h.props
    simp only [propsEncode_true_cons, hx, hr]

/-- **PUBACK, PUBREC, PUBREL, PUBCOMP** parse under the independent decoder to exactly the supplied fields
(properties omitted when there are none, as the standard permits) -/
theorem ack_encode_decodes (pid rc : Nat) (ps : Props) (h : WFAck pid rc ps) (hsz : 3 + propsSize true ps ≤ 268435455) :
    decode (encodePuback pid rc ps) = some (.puback pid rc ps) ∧
    decode (encodePubrec pid rc ps) = some (.pubrec pid rc ps) ∧
    decode (encodePubrel pid rc ps) = some (.pubrel pid rc ps) ∧
    decode (encodePubcomp pid rc ps) = some (.pubcomp pid rc ps) := by
  -- `hmk`: for each of the four type bytes `decodeBody b0` is `pAckBody` followed by the packet's constructor; that holds by
  -- evaluating `decodeBody`'s tests on the literal byte, so `fun _ => rfl` proves it and `mk` is found by unification
  have hd (b0 : Nat) (hb : b0 < 256) (mk : Nat × Nat × Props → Packet) (hmk : ∀ body, decodeBody b0 body = (pAckBody body).map mk) :
      decode (ackPacket b0 pid rc ps) = some (mk (pid, rc, ps)) := by
    rw [ackPacket, decode_packet _ _ _ hb (ackBody_length pid rc ps) (by omega), hmk, ackBody_roundtrip pid rc ps h]
    rfl
  exact ⟨hd 0x40 (by decide) _ fun _ => rfl, hd 0x50 (by decide) _ fun _ => rfl, hd 0x62 (by decide) _ fun _ => rfl,
    hd 0x70 (by decide) _ fun _ => rfl⟩

/-- well-formed DISCONNECT / AUTH fields -/
structure WFRcProps (allowed : List Nat) (rc : Nat) (ps : Props) : Prop where
  rc : rc < 256
  props : WFProps allowed [userProp] ps

theorem rcProps_roundtrip (allowed : List Nat) (rc : Nat) (ps : Props) (h : WFRcProps allowed rc ps) :
    pRcProps allowed ([rc % 256] ++ propsEncode false ps) = some (rc, ps) := by
  obtain ⟨x, xs, hx, hr⟩ := pProps_last h.props
  simp only [pRcProps, List.singleton_append, Nat.mod_eq_of_lt h.rc, pU8, h.rc, if_true, hx, hr]

/-- **DISCONNECT** and **AUTH** -/
theorem disconnect_auth_encode_decodes (rc : Nat) (ps : Props) (hsz : 1 + propsSize false ps ≤ 268435455) :
    (WFRcProps allowedDisconnect rc ps → decode (encodeDisconnect rc ps) = some (.disconnect rc ps)) ∧
    (WFRcProps allowedAuth rc ps → decode (encodeAuth rc ps) = some (.auth rc ps)) := by
  -- `hmk` as in `ack_encode_decodes`: `decodeBody` on the literal type byte, by evaluation
  have hd (b0 : Nat) (hb : b0 < 256) (allowed : List Nat) (mk : Nat × Props → Packet)
      (hmk : ∀ body, decodeBody b0 body = (pRcProps allowed body).map mk) (h : WFRcProps allowed rc ps) :
      decode (packet b0 (1 + propsSize false ps) ([rc % 256] ++ propsEncode false ps)) = some (mk (rc, ps)) := by
    rw [decode_packet _ _ _ hb (rcBody_length rc ps) hsz, hmk, rcProps_roundtrip _ rc ps h]
    rfl
  exact ⟨hd 0xE0 (by decide) _ _ fun _ => rfl, hd 0xF0 (by decide) _ _ fun _ => rfl⟩

/-- **PINGREQ** -/
theorem pingreq_encode_decodes : decode encodePingreq = some .pingreq := by decide

structure WFPublish (pid : Option Nat) (topic : Bs) (qos retain dup : Nat) (ps : Props) : Prop where
  htopic : topic.length ≤ 65535
  hqos : qos ≤ 2
  hretain : retain ≤ 1
  hdup : dup ≤ 1
  hdup0 : qos = 0 → dup = 0
  hpid : (qos = 0 → pid = none) ∧ (qos ≠ 0 → ∃ p, pid = some p ∧ 1 ≤ p ∧ p < 65536)
  hprops : WFProps allowedPublish [userProp, subId] ps

/-- The bit lemmas (this one, `subOptsByte_bits`, `flagsByte_bits`) speak of a variable with `h : b0 = …`: the packed expression
then stands once in the statement, and once in what `omega` is given, not once per field. -/
theorem publishByte_bits {qos retain dup b0 : Nat} (hq : qos ≤ 3) (hr : retain ≤ 1) (hd : dup ≤ 1)
    (h : b0 = ((3 * 2 + dup) * 4 + qos) * 2 + retain) :
    b0 < 256 ∧ b0 / 16 = 3 ∧ b0 % 16 / 8 = dup ∧ b0 % 16 / 2 % 4 = qos ∧ b0 % 16 % 2 = retain := by omega

/-- **PUBLISH** (any payload bytes, any QoS, DUP/RETAIN flags, packet identifier only for QoS > 0) -/
theorem publish_encode_decodes (pid : Option Nat) (topic payload : Bs) (qos retain dup : Nat) (ps : Props)
    (h : WFPublish pid topic qos retain dup ps)
    (hsz : lenPrefixedSize topic + 2 + propsSize false ps + payload.length ≤ 268435455) :
    decode (encode (.publish pid topic payload qos retain dup ps)) = some (.publish pid topic payload qos retain dup ps) := by
  obtain ⟨ht, hq, hr, hd, hd0, hpid, hps⟩ := h
  obtain ⟨hb0, b1, b2, b3, b4⟩ := publishByte_bits (show qos ≤ 3 by omega) hr hd rfl
  have hq3 : qos ≠ 3 := by omega
  -- `refine … .trans`, not `rw`: the `match` of `publishBody_length` and that of `encodePublish` agree only after unfolding
  refine (decode_packet _ _ _ hb0 (publishBody_length ..) (by split <;> omega)).trans ?_
  simp only [decodeBody, b1, b2, b3, b4, if_true, hq3, false_or, List.append_assoc, pBin_lenPrefixed ht]
  by_cases hq0 : qos = 0
  · simp [hq0, hd0 hq0, hpid.1 hq0, pProps_roundtrip hps]
  · obtain ⟨p, rfl, hp1, hp2⟩ := hpid.2 hq0
    have hp0 : p ≠ 0 := by omega
    simp [hq0, pU16_be16 hp2, hp0, pProps_roundtrip hps]

def WFSubTopic (t : Bs × SubOpts) : Prop :=
  t.1.length ≤ 65535 ∧ t.2.maxQos ≤ 2 ∧ t.2.noLocal ≤ 1 ∧ t.2.retainAsPublished ≤ 1 ∧ t.2.retainHandling ≤ 2

theorem subOptsByte_bits {o : SubOpts} {b : Nat} (h : o.maxQos ≤ 2 ∧ o.noLocal ≤ 1 ∧ o.retainAsPublished ≤ 1 ∧ o.retainHandling ≤ 2)
    (hb : b = subOptsByte o) :
    b < 64 ∧ b % 4 = o.maxQos ∧ b / 4 % 2 = o.noLocal ∧ b / 8 % 2 = o.retainAsPublished ∧ b / 16 % 4 = o.retainHandling := by
  unfold subOptsByte at hb; omega

theorem subTopic_ne_nil (t : Bs × SubOpts) : lenPrefixed t.1 ++ [subOptsByte t.2] ≠ [] :=
  List.append_ne_nil_of_right_ne_nil _ (List.cons_ne_nil _ _)

theorem pSubTopics_step {t : Bs × SubOpts} (h : WFSubTopic t) (f : Nat) (r : Bs) :
    pSubTopics (f + 1) (lenPrefixed t.1 ++ [subOptsByte t.2] ++ r) = (pSubTopics f r).map (t :: ·) := by
  obtain ⟨hlen, hopts⟩ := h
  obtain ⟨b0, b1, b2, b3, b4⟩ := subOptsByte_bits hopts rfl
  obtain ⟨hqos, -, -, hrh⟩ := hopts
  have hq : t.2.maxQos ≠ 3 := by omega
  have hh : t.2.retainHandling ≠ 3 := by omega
  rw [pSubTopics.eq_3 _ _ (List.append_ne_nil_of_left_ne_nil (subTopic_ne_nil t) r)]
  simp only [List.append_assoc, pBin_lenPrefixed hlen, List.singleton_append, b0, b1, b2, b3, b4, hq, hh,
    ne_eq, not_false_eq_true, and_self, if_true]

theorem subTopics_roundtrip (ts : List (Bs × SubOpts)) (h : ∀ t ∈ ts, WFSubTopic t) :
    ∀ fuel, (subTopicsBody ts).length ≤ fuel → pSubTopics fuel (subTopicsBody ts) = some ts :=
  loop_roundtrip (loop := pSubTopics) (enc := fun t => lenPrefixed t.1 ++ [subOptsByte t.2]) (fun f => by cases f <;> rfl) rfl
    (fun _ _ => rfl) ts fun t ht => ⟨subTopic_ne_nil t, pSubTopics_step (h t ht)⟩

/-- **SUBSCRIBE** -/
theorem subscribe_encode_decodes (pid : Nat) (ts : List (Bs × SubOpts)) (ps : Props)
    (hpid : 1 ≤ pid ∧ pid < 65536) (hts : ts ≠ []) (hwf : ∀ t ∈ ts, WFSubTopic t)
    (hps : WFProps allowedSubscribe [userProp] ps)
    (hsz : 2 + propsSize false ps + subTopicsSize ts ≤ 268435455) :
    decode (encode (.subscribe pid ts ps)) = some (.subscribe pid ts ps) := by
  have hp0 : pid ≠ 0 := by omega
  obtain ⟨t, ts, rfl⟩ := List.exists_cons_of_ne_nil hts
  rw [encode, encodeSubscribe, decode_packet _ _ _ (by decide) (subscribeBody_length ..) hsz]
  simp [decodeBody, List.append_assoc, pU16_be16 hpid.2, hp0, pProps_roundtrip hps, subTopics_roundtrip (t :: ts) hwf _ (Nat.le_refl _)]

theorem topics_roundtrip (ts : List Bs) (h : ∀ t ∈ ts, t.length ≤ 65535) :
    ∀ fuel, (unsubTopicsBody ts).length ≤ fuel → pTopics fuel (unsubTopicsBody ts) = some ts :=
  loop_roundtrip (enc := lenPrefixed) (fun f => by cases f <;> rfl) rfl (fun _ _ => rfl) ts fun t ht =>
    have hne : lenPrefixed t ≠ [] := List.cons_ne_nil _ _
    ⟨hne, fun f r => by rw [pTopics.eq_3 _ _ (List.append_ne_nil_of_left_ne_nil hne r), pBin_lenPrefixed (h t ht) r]⟩

/-- **UNSUBSCRIBE** -/
theorem unsubscribe_encode_decodes (pid : Nat) (ts : List Bs) (ps : Props)
    (hpid : 1 ≤ pid ∧ pid < 65536) (hts : ts ≠ []) (hwf : ∀ t ∈ ts, t.length ≤ 65535)
    (hps : WFProps allowedUnsubscribe [userProp] ps)
    (hsz : 2 + propsSize false ps + unsubTopicsSize ts ≤ 268435455) :
    decode (encode (.unsubscribe pid ts ps)) = some (.unsubscribe pid ts ps) := by
  have hp0 : pid ≠ 0 := by omega
  obtain ⟨t, ts, rfl⟩ := List.exists_cons_of_ne_nil hts
  rw [encode, encodeUnsubscribe, decode_packet _ _ _ (by decide) (unsubscribeBody_length ..) hsz]
  simp [decodeBody, List.append_assoc, pU16_be16 hpid.2, hp0, pProps_roundtrip hps, topics_roundtrip (t :: ts) hwf _ (Nat.le_refl _)]

structure WFConnect (cid : Bs) (user pass : Option Bs) (ka cs : Nat) (ps : Props) (w : Option Will) : Prop where
  hcid : cid.length ≤ 65535
  huser : ∀ u, user = some u → u.length ≤ 65535
  hpass : ∀ p, pass = some p → p.length ≤ 65535
  hka : ka < 65536
  hcs : cs ≤ 1
  hprops : WFProps allowedConnect [userProp] ps
  hwill : ∀ x, w = some x → x.topic.length ≤ 65535 ∧ x.message.length ≤ 65535 ∧ x.qos ≤ 2 ∧ x.retain ≤ 1 ∧
    WFProps allowedWill [userProp] x.props

theorem boolN_le (b : Bool) : boolN b ≤ 1 := by cases b <;> decide
@[simp] theorem boolN_true : boolN true = 1 := rfl
@[simp] theorem boolN_false : boolN false = 0 := rfl

theorem flagsByte_bits {u p wr wq wf cs fl : Nat} (hu : u ≤ 1) (hp : p ≤ 1) (hwr : wr ≤ 1) (hwq : wq ≤ 3) (hwf : wf ≤ 1) (hcs : cs ≤ 1)
    (h : fl = (((((u * 2 + p) * 2 + wr) * 4 + wq) * 2 + wf) * 2 + cs) * 2) :
    fl < 256 ∧ fl % 2 = 0 ∧ fl / 2 % 2 = cs ∧ fl / 4 % 2 = wf ∧ fl / 8 % 4 = wq ∧ fl / 32 % 2 = wr ∧ fl / 64 % 2 = p ∧
      fl / 128 % 2 = u := by omega

theorem connectFlags_bits {user pass : Option Bs} {cs : Nat} {w : Option Will} {fl : Nat} (hcs : cs ≤ 1)
    (hw : ∀ x, w = some x → x.qos ≤ 2 ∧ x.retain ≤ 1) (h : fl = connectFlags user pass cs w) :
    fl < 256 ∧ fl % 2 = 0 ∧ fl / 2 % 2 = cs ∧ fl / 4 % 2 = boolN w.isSome ∧ fl / 8 % 4 = w.elim 0 (·.qos) ∧
      fl / 32 % 2 = w.elim 0 (·.retain) ∧ fl / 64 % 2 = boolN pass.isSome ∧ fl / 128 % 2 = boolN user.isSome := by
  cases w with
  | none => exact flagsByte_bits (boolN_le _) (boolN_le _) (by decide) (by decide) (by decide) hcs h
  | some x =>
    obtain ⟨hqos, hretain⟩ := hw x rfl
    exact flagsByte_bits (wr := x.retain) (wq := x.qos) (wf := 1) (boolN_le _) (boolN_le _) hretain (by omega) (by decide) hcs h

/-- user name and password: the parser is what `pConnectBody` does with such a field once its flag bit is rewritten by
`connectFlags_bits` -/
theorem optBin_roundtrip (u : Option Bs) (h : ∀ x, u = some x → x.length ≤ 65535) :
    Reads (fun bs => if boolN u.isSome = 1 then (pBin bs).map (fun (x, r) => (some x, r)) else some (none, bs)) (optLenPrefixed u) u := by
  intro r
  cases u with
  | none => rfl
  | some x => simp [optLenPrefixed, pBin_lenPrefixed (h x rfl) r]

theorem connectBody_roundtrip (cid : Bs) (user pass : Option Bs) (ka cs : Nat) (ps : Props) (w : Option Will)
    (h : WFConnect cid user pass ka cs ps w) :
    pConnectBody (connectBody cid user pass ka cs ps w) = some (.connect cid user pass ka cs ps w) := by
  obtain ⟨hcid, huser, hpass, hka, hcs, hps, hwill⟩ := h
  obtain ⟨f0, f1, f2, f3, f4, f5, f6, f7⟩ :=
    connectFlags_bits hcs (fun x hx => by obtain ⟨-, -, hqos, hretain, -⟩ := hwill x hx; exact ⟨hqos, hretain⟩) rfl
  have hpass' := Reads.nil (optBin_roundtrip pass hpass)
  unfold connectBody pConnectBody
  generalize connectFlags user pass cs w = fl at *
  -- the fields up to the client identifier, and the flags byte replaced by what its bits say
  simp only [List.singleton_append, pBin_lenPrefixed (show [77, 81, 84, 84].length ≤ 65535 by decide), Nat.mod_eq_of_lt f0,
    pU16_be16 hka, pProps_roundtrip hps, pBin_lenPrefixed hcid, f1, f2, f3, f4, f5, f6, f7]
  cases w with
  | none => simp [f0, optBin_roundtrip user huser, hpass']
  | some x =>
    obtain ⟨hwt, hwm, hwq, -, hwp⟩ := hwill x rfl
    have hq3 : x.qos ≠ 3 := by omega
    simp [f0, hq3, List.append_assoc, pProps_roundtrip hwp, pBin_lenPrefixed hwt, pBin_lenPrefixed hwm,
      optBin_roundtrip user huser, hpass']

/-- **CONNECT**: client identifier, user name / password presence, Will (with its properties, QoS, retain), keep-alive,
Clean Start and the CONNECT properties are read back exactly by the independent decoder -/
theorem connect_encode_decodes (cid : Bs) (user pass : Option Bs) (ka cs : Nat) (ps : Props) (w : Option Will)
    (h : WFConnect cid user pass ka cs ps w) (hsz : connectBodySize cid user pass ps w ≤ 268435455) :
    decode (encode (.connect cid user pass ka cs ps w)) = some (.connect cid user pass ka cs ps w) := by
  rw [encode, encodeConnect, decode_packet _ _ _ (by decide) (connectBody_length cid user pass ka cs ps w) hsz]
  simp [decodeBody, connectBody_roundtrip cid user pass ka cs ps w h]

/-- non-vacuity: a QoS 1 PUBLISH with a user property and a topic alias satisfies `WFPublish`/`WFProps` -/
example : WFPublish (some 7) [97, 47, 98] 1 0 0 [⟨35, .u16 3⟩, ⟨38, .pair [107] [118]⟩] := by
  refine ⟨by decide, by decide, by decide, by decide, by decide, ⟨by decide, fun _ => ⟨7, rfl, by decide, by decide⟩⟩, ?_⟩
  refine ⟨?_, by decide, by decide⟩
  intro p hp
  simp at hp
  rcases hp with rfl | rfl <;> exact ⟨by decide, by decide, by decide, by simp [WFVal]⟩

/-! ## the composed client model, content of requests (`Model/TraceContent.lean`; front end and tie as said in `Props/C01`) -/
section ComposedContent
open Mqtt5V.Model

/-- **every accepted history**: whenever a PUBLISH of operation `op` is written — first transmission or retransmission, on any connection —
it says exactly what the operation's `async_publish` call said, and that call came before -/
theorem composed_request_says_what_was_asked (pre post : List TraceContent.Ev) (op c : Nat)
    (hacc : TraceContent.accepts (pre ++ TraceContent.Ev.req op c :: post) = true) : TraceContent.Ev.init op c ∈ pre :=
  Mqtt5V.Proofs.TraceContent.request_says_what_was_asked hacc

example : TraceContent.accepts [.init 1 5, .init 2 6, .req 1 5, .req 2 6, .req 1 5] = true := by decide
example : TraceContent.accepts [.init 1 5, .req 1 6] = false := by decide
example : TraceContent.accepts [.req 1 5] = false := by decide

end ComposedContent

end Mqtt5V.Props.C17
