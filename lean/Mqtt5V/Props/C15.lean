import Mqtt5V.Model.Validate
import Mqtt5V.Proofs.IfChain
/-! # C15 — capabilities announced in CONNACK are honoured (request validation core)

Model of `publish_send_op::perform` / `subscribe_op::perform` with their validation chains
(`Except error bytes`).  For every combination of capabilities and every request:
a packet is handed to the sender only if it respects Maximum Packet Size, Maximum QoS, Retain Available,
Topic Alias Maximum and the wildcard / shared / identifier availability; otherwise the documented error is
returned (in the code's precedence order) and no packet is built. -/
namespace Mqtt5V.Props.C15
open Mqtt5V Mqtt5V.Wire Mqtt5V.Model.Validate Mqtt5V.Model.Enc Mqtt5V.Model.Utf8

theorem validatePublish_zero {c : Caps} {qos retain : Nat} {topic payload : Bs} {ps : Props}
    (h : validatePublish c qos retain topic payload ps = 0) :
    qos ≤ c.maxQos ∧ ¬ (c.retainAvailable = 0 ∧ retain = 1) ∧ validatePublishProps c ps = 0 := by
  unfold validatePublish at h
  simp (decide := true) only [ite_eq_of_ne, ne_eq] at h
  obtain ⟨_topicOk, hqos, hretain, _payloadOk, hprops⟩ := h
  exact ⟨by omega, hretain, hprops⟩

theorem validatePublishProps_alias {c : Caps} {ps : Props} (h : validatePublishProps c ps = 0) :
    ∀ a, numOf ps 35 = some a → 1 ≤ a ∧ a ≤ c.topicAliasMax := by
  intro a ha
  unfold validatePublishProps at h
  simp (decide := true) only [ha, ite_eq_of_ne, ne_eq] at h
  obtain ⟨hwithin, hnonzero, _⟩ := h
  omega

theorem publishRequest_ok {c : Caps} {pid qos retain : Nat} {topic payload : Bs} {ps : Props} {pkt : Bs}
    (h : publishRequest c pid qos retain topic payload ps = .ok pkt) :
    validatePublish c qos retain topic payload ps = 0 ∧ pkt = encodePublish pid topic payload qos retain 0 ps ∧
      pkt.length ≤ c.maxPacket := by
  unfold publishRequest at h
  simp only [ite_eq_of_ne, ne_eq, reduceCtorEq, not_false_eq_true, Decidable.not_not, Except.ok.injEq] at h
  obtain ⟨hv, hsz, rfl⟩ := h
  exact ⟨hv, rfl, by omega⟩

/-- **PUBLISH honours the capabilities**: an accepted publish fits the Maximum Packet Size, does not exceed Maximum QoS,
is not retained when the broker has no retain support, and uses a Topic Alias only within 1 … Topic Alias Maximum -/
theorem publish_caps (c : Caps) (pid qos retain : Nat) (topic payload : Bs) (ps : Props) (pkt : Bs)
    (h : publishRequest c pid qos retain topic payload ps = .ok pkt) :
    pkt.length ≤ c.maxPacket ∧ qos ≤ c.maxQos ∧ ¬ (c.retainAvailable = 0 ∧ retain = 1) ∧
    (∀ a, numOf ps 35 = some a → 1 ≤ a ∧ a ≤ c.topicAliasMax) ∧ pkt = encodePublish pid topic payload qos retain 0 ps := by
  obtain ⟨hv, hpkt, hsz⟩ := publishRequest_ok h
  obtain ⟨h1, h2, h3⟩ := validatePublish_zero hv
  exact ⟨hsz, h1, h2, validatePublishProps_alias h3, hpkt⟩

/-- the documented errors, in the code's precedence order -/
theorem publish_error_table (c : Caps) (pid qos retain : Nat) (topic payload : Bs) (ps : Props) :
    (qos > c.maxQos → (numOf ps 35).isNone → validateTopicName topic = 0 →
        publishRequest c pid qos retain topic payload ps = .error E_QOS) ∧
    (qos ≤ c.maxQos → c.retainAvailable = 0 → retain = 1 → (numOf ps 35).isNone → validateTopicName topic = 0 →
        publishRequest c pid qos retain topic payload ps = .error E_RETAIN) ∧
    ((numOf ps 35).isNone → validateTopicName topic ≠ 0 → publishRequest c pid qos retain topic payload ps = .error E_INVALID_TOPIC) := by
  refine ⟨fun h1 h2 h3 => ?_, fun h1 h2 h3 h4 h5 => ?_, fun h1 h2 => ?_⟩
  · simp [publishRequest, validatePublish, Option.isNone_iff_eq_none.mp h2, h3, h1, E_QOS]
  · simp [publishRequest, validatePublish, Option.isNone_iff_eq_none.mp h4, h5, Nat.not_lt.mpr h1, h2, h3, E_RETAIN]
  · simp [publishRequest, validatePublish, Option.isNone_iff_eq_none.mp h1, h2, E_INVALID_TOPIC]

/-- boundaries of the size check: a packet of exactly Maximum Packet Size is sent, one byte more is refused -/
theorem size_boundary (c : Caps) (pid qos retain : Nat) (topic payload : Bs) (ps : Props)
    (hv : validatePublish c qos retain topic payload ps = 0) :
    ((encodePublish pid topic payload qos retain 0 ps).length ≤ c.maxPacket →
        publishRequest c pid qos retain topic payload ps = .ok (encodePublish pid topic payload qos retain 0 ps)) ∧
    ((encodePublish pid topic payload qos retain 0 ps).length > c.maxPacket →
        publishRequest c pid qos retain topic payload ps = .error E_TOO_LARGE) := by
  -- validation passed: what is left of `publishRequest` is the size test
  simp only [publishRequest, hv, ne_eq, not_true_eq_false, if_false]
  exact ⟨fun h => if_neg (Nat.not_lt.mpr h), fun h => if_pos h⟩

theorem firstErr_zero (l : List Nat) : firstErr l = 0 ↔ ∀ e ∈ l, e = 0 := by
  induction l with
  | nil => simp [firstErr]
  | cons a as ih => simp only [firstErr, List.mem_cons, forall_eq_or_imp, ← ih]; by_cases ha : a = 0 <;> simp [ha]

theorem validateSubTopic_shared {c : Caps} {f : Bs} (h : validateSubTopic c f = 0) (hs : c.sharedAvailable = 0) :
    startsWithShare f = false := by
  unfold validateSubTopic at h
  simp (decide := true) only [ite_eq_of_ne, ne_eq] at h
  obtain ⟨hshared, _⟩ := h
  simpa [hs] using hshared

theorem validateSubProps_subId {c : Caps} {ps : Props} (h : validateSubProps c ps = 0) :
    ∀ sid, numOf ps 11 = some sid → c.subIdAvailable ≠ 0 ∧ 1 ≤ sid ∧ sid ≤ 268435455 := by
  intro sid hsid
  unfold validateSubProps at h
  simp (decide := true) only [hsid, ite_eq_of_ne, ne_eq] at h
  obtain ⟨_userPropsOk, havail, hrange⟩ := h
  refine ⟨havail, ?_⟩
  split at hrange
  · assumption
  · cases hrange

theorem subscribeRequest_ok {c : Caps} {pid : Nat} {topics : List (Bs × SubOpts)} {ps : Props} {pkt : Bs}
    (h : subscribeRequest c pid topics ps = .ok pkt) :
    topics ≠ [] ∧ firstErr (topics.map fun t => validateSubTopic c t.1) = 0 ∧ validateSubProps c ps = 0 ∧
      pkt = encodeSubscribe pid topics ps ∧ pkt.length ≤ c.maxPacket := by
  unfold subscribeRequest at h
  simp only [ite_eq_of_ne, ne_eq, reduceCtorEq, not_false_eq_true, Decidable.not_not, Except.ok.injEq, List.isEmpty_iff] at h
  obtain ⟨hne, he, hp, hsz, rfl⟩ := h
  exact ⟨hne, he, hp, rfl, by omega⟩

/-- **SUBSCRIBE honours the capabilities**: an accepted subscribe fits the Maximum Packet Size; with wildcard subscriptions
disabled every filter validated as a plain topic name (no `#`/`+`); with shared subscriptions disabled no filter starts
with `$share/`; a Subscription Identifier is present only if the broker supports them, and then within 1 … 268 435 455 -/
theorem subscribe_caps (c : Caps) (pid : Nat) (topics : List (Bs × SubOpts)) (ps : Props) (pkt : Bs)
    (h : subscribeRequest c pid topics ps = .ok pkt) :
    pkt.length ≤ c.maxPacket ∧ topics ≠ [] ∧
    (∀ t ∈ topics, validateSubTopic c t.1 = 0) ∧
    (∀ t ∈ topics, c.sharedAvailable = 0 → startsWithShare t.1 = false) ∧
    (∀ sid, numOf ps 11 = some sid → c.subIdAvailable ≠ 0 ∧ 1 ≤ sid ∧ sid ≤ 268435455) := by
  obtain ⟨hne, he, hp, _, hsz⟩ := subscribeRequest_ok h
  have htop : ∀ t ∈ topics, validateSubTopic c t.1 = 0 := fun t ht => (firstErr_zero _).mp he _ (List.mem_map_of_mem ht)
  exact ⟨hsz, hne, htop, fun t ht => validateSubTopic_shared (htop t ht), validateSubProps_subId hp⟩

/-- non-vacuity: with Maximum QoS 1 a QoS 2 publish is refused with qos_not_supported before anything is encoded -/
example : validatePublish { maxQos := 1 } 2 0 [116] [112] [] = E_QOS ∧ validateSubProps { subIdAvailable := 0 } [⟨11, .vint 5⟩] = E_SUBID := by
  constructor
  · have : validateTopicName [116] = 0 := by
      simp [validateTopicName, validateImpl, isValidTopicSize, isValidStringSize, Gen.Utf8Rule.maxStringSize]
      rw [validateLoop]; simp [popFront, Gen.Utf8Rule.charRule, isUtf8NoWildcard]
      rw [validateLoop]; simp
    simp [validatePublish, numOf, this, E_QOS]
  · decide

end Mqtt5V.Props.C15
