import Mqtt5V.Proofs.Connect
import Mqtt5V.Proofs.IfChain
import Mqtt5V.Props.C17
import Mqtt5V.Props.C19
import Mqtt5V.Props.C20
/-! # C10 — each connection starts with the configured CONNECT and is gated on CONNACK

Model: `Model/Connect.lean` (`exponential_backoff`, `resolve_op::perform`, the retry loop of `reconnect_op`, the
handshake of `connect_op`), constants regenerated from the source (`Gen.Timing`).  The model is tied to the real
`autoconnect_stream` + `reconnect_op` + `connect_op` + `resolve_op` by the H-stream lock-step (`rot`, `hs` engines)
and the bytes of the first packet to the real `connect_op` by `enc connect`. -/
namespace Mqtt5V.Props.C10
open Mqtt5V Mqtt5V.Wire Mqtt5V.Gen.Timing Mqtt5V.Model Mqtt5V.Model.Connect Mqtt5V.Proofs.Connect

/-- **the first packet is the configured CONNECT with Clean Start 0**: the strict specification decoder reads back, from the
bytes `connect_op` writes, exactly the configured client identifier, credentials, Will, keep-alive and properties -/
theorem first_packet_is_configured_connect (cid : Bs) (user pass : Option Bs) (ka : Nat) (ps : Props) (w : Option Will)
    (h : C17.WFConnect cid user pass ka 0 ps w) (hsz : Enc.connectBodySize cid user pass ps w ≤ 268435455) :
    Spec.Wire.decode (firstPacket cid user pass ka ps w) = some (.connect cid user pass ka 0 ps w) :=
  C17.connect_encode_decodes cid user pass ka 0 ps w h hsz

/-- the k-th pause of a reconnect operation is `2^min(k,4)` seconds ± the jitter -/
theorem pause_window (e : Nat) (noise : Int) (hlo : backoffJitterLo ≤ noise) (hhi : noise ≤ backoffJitterHi) :
    (2 ^ e * 1000 : Nat) - 500 ≤ pauseMs e noise ∧ pauseMs e noise ≤ (2 ^ e * 1000 : Nat) + 500 := by
  unfold backoffJitterLo at hlo; unfold backoffJitterHi at hhi
  simp only [pauseMs, backoffBaseMs]
  omega

/-- **every pause lies between 0.5 s and 16.5 s** whatever the exponent state and the jitter drawn: the window around
`2^e` s with `e` at most the maximal exponent -/
theorem pause_between_half_and_sixteen_and_a_half_seconds (cur : Nat) (noise : Int)
    (hlo : backoffJitterLo ≤ noise) (hhi : noise ≤ backoffJitterHi) :
    500 ≤ pauseMs (backoffStep cur).1 noise ∧ pauseMs (backoffStep cur).1 noise ≤ 16500 := by
  have h := pause_window (backoffStep cur).1 noise hlo hhi
  have h1 : 2 ^ (backoffStep cur).1 ≤ 2 ^ backoffMaxExp := Nat.pow_le_pow_right (by decide) (backoff_exponent_bounded cur)
  have h2 : 0 < 2 ^ (backoffStep cur).1 := Nat.two_pow_pos _
  simp only [backoffMaxExp, Nat.reducePow] at h1
  omega

/-- **brokers are tried in list order, each attempt on the next one without pause, and a pause is taken only when the
list wrapped around** — for every broker count, every state reachable (`pos ≤ n`) and every outcome sequence -/
theorem run_obeys_rotation (n : Nat) (hn : 0 < n) (os : List Outcome) :
    ∀ s : St, s.pos ≤ n → Obeys n s.pos (run n s os).1 :=
  fun s _ => run_obeys (by omega) os s

/-- **the pauses of one reconnect operation use the exponents `min(e,4), min(e+1,4), …`** (1 s, 2 s, 4 s, 8 s, 16 s, 16 s, … ± jitter) -/
theorem pauses_grow (n : Nat) (os : List Outcome) :
    ∀ s : St, pausesOf (run n s os).1 = expected s.exp (pausesOf (run n s os).1).length := by
  intro s
  obtain ⟨k, hk⟩ := pauses_expected n os s
  rw [hk, expected_length]

/-- **a connection is established exactly when some attempt succeeded** (and then the operation stops: `Obeys` allows
nothing after `established`) -/
theorem established_iff_some_attempt_succeeds (n : Nat) (hn : 0 < n) (os : List Outcome) :
    ∀ s : St, (run n s os).1.any isEstablished = os.any Outcome.succeeds := by
  induction os with
  | nil => intro s; rfl
  | cons o os ih =>
    intro s
    rw [run_cons (by omega), List.any_append, round_established, List.any_cons]
    cases Outcome.succeeds o
    · simpa using ih _
    · rfl

/-- what an accepted fixed header says: the first byte is the bare packet type (CONNACK or AUTH, no flag bit set), the Remaining Length
`len` ends at `first` within the five bytes read, and `remain` is what of the packet lies beyond them -/
theorem frame_more {b : Bs} {code first len remain : Nat} (h : frame b = .more code first len remain) :
    b.getD 0 0 = code ∧ (code = 0x20 ∨ code = 0xF0) ∧ Dec.varint ⟨b, minPacketSz⟩ 1 minPacketSz = .ok len first ∧
      minPacketSz - first ≤ len ∧ remain = len - (minPacketSz - first) := by
  unfold frame at h
  simp only [ite_eq_of_ne, ne_eq, reduceCtorEq, not_false_eq_true] at h
  obtain ⟨hc, hfl, h⟩ := h
  split at h
  · rename_i hv
    simp only [ite_eq_of_ne, ne_eq, reduceCtorEq, not_false_eq_true, Frame.more.injEq] at h
    obtain ⟨hm, rfl, rfl, rfl, rfl⟩ := h
    exact ⟨by omega, by omega, hv, by omega, rfl⟩
  · cases h

/-- **the handshake reads exactly the packet**: after the 5-byte header read, `remain` further bytes are requested and
header + Remaining Length = 5 + remain; the body handed to the decoder lies inside those bytes -/
theorem frame_reads_exactly_the_packet (b : Bs) (code first len remain : Nat) (h : frame b = .more code first len remain) :
    first + len = minPacketSz + remain ∧ 1 ≤ first ∧ first ≤ minPacketSz := by
  obtain ⟨_, _, hv, hm, rfl⟩ := frame_more h
  have hp : 1 ≤ first ∧ first ≤ minPacketSz := by
    simpa [hv, Proofs.Dec.Good] using Proofs.Dec.varint_good ⟨b, minPacketSz⟩ 1 minPacketSz (Nat.le_refl _)
  omega

/-- the CONNACK decoder, run on the handshake buffer, never reads outside the bytes received for this packet -/
theorem handshake_decode_in_bounds (mem : Bs) (first len remain : Nat) (h : first + len = minPacketSz + remain) :
    Proofs.Dec.Good first (first + len) (Dec.decodeConnack ⟨mem, minPacketSz + remain⟩ first len) :=
  C19.connack_in_bounds ⟨mem, minPacketSz + remain⟩ first len (by simp [h])

/-- in the CONNACK category the only admitted code below 0x80 is Success: admission is membership in the header's table
(`C20.admit_iff_table`), and 0 is the only entry of that table below 0x80 -/
theorem connack_success_code (rc : Nat) (h : Verdict.admitted .connack rc = true) (hlt : rc < 0x80) : rc = 0 := by
  have low : ∀ x ∈ Gen.ReasonCodes.table .connack, x < 0x80 → x = 0 := by decide
  by_cases hm : rc ∈ Gen.ReasonCodes.table .connack
  · exact low rc hm hlt
  · simp [Verdict.admitted, C20.admit_iff_table .connack rc (by omega), hm] at h

/-- **a connection is established only after a complete, well-formed CONNACK with reason code Success**: whatever bytes the
broker sends, `established` implies the framing accepted a CONNACK, the whole packet was received, the decoder succeeded
and the reason code is 0 -/
theorem established_only_after_success_connack (rx : Bs) (sp : Nat) (ps : Props) (h : handshake rx = .established sp ps) :
    rx.getD 0 0 = 0x20 ∧ sp ≤ 1 ∧
    ∃ first len remain, frame (rx.take minPacketSz) = .more 0x20 first len remain ∧ minPacketSz + remain ≤ rx.length ∧
      ∃ p, Dec.decodeConnack ⟨rx.take (minPacketSz + remain), minPacketSz + remain⟩ first len = .ok (sp, 0, ps) p := by
  -- follow the one path through `handshake` that ends in `established`
  unfold handshake at h
  simp only [ite_eq_of_ne, ne_eq, reduceCtorEq, not_false_eq_true] at h
  obtain ⟨-, h⟩ := h
  split at h
  · cases h
  · cases h
  rename_i code first len remain hf
  simp only [ite_eq_of_ne, ne_eq, reduceCtorEq, not_false_eq_true, Decidable.not_not] at h
  obtain ⟨hall, rfl, h⟩ := h
  split at h
  · rename_i sp' rc ps' p hd
    simp only [ite_eq_of_ne, ne_eq, reduceCtorEq, not_false_eq_true, HsVerdict.established.injEq, Bool.not_eq_true',
      Bool.not_eq_false] at h
    obtain ⟨hsp, hadm, hrc, rfl, rfl⟩ := h
    obtain rfl := connack_success_code rc hadm (by omega)
    refine ⟨?_, by omega, first, len, remain, hf, by omega, p, hd⟩
    -- the first of the five bytes the framing saw is the first byte received
    rw [← (frame_more hf).1]
    cases rx <;> rfl
  · cases h

/-- non-vacuity: three brokers, the first unresolvable, the second refusing on both endpoints, the third silent, then after
the wrap the first accepts — hosts 0,1,2, pause (exponent 0), host 0 -/
example : (run 3 ⟨0, 0⟩ [.resolveFail, .eps [false, false], .eps [false], .eps [true]]).1 =
    [.resolve 0, .resolve 1, .connect 1 0, .connect 1 1, .resolve 2, .connect 2 0, .pause 0, .resolve 0, .connect 0 0, .established 0 0] := by
  decide

/-- non-vacuity: a minimal successful CONNACK establishes, a refused one (0x87) does not, a truncated one waits -/
example : handshake [0x20, 3, 1, 0, 0] = .established 1 [] ∧ handshake [0x20, 3, 0, 0x87, 0] = .retry ∧
    handshake [0x20, 3, 0, 0] = .needMore 1 ∧ handshake [0x20, 1, 0, 0, 0] = .malformed ∧ handshake [0xD0, 0, 0, 0, 0] = .retry := by
  decide

end Mqtt5V.Props.C10
