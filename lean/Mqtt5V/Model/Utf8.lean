import Mqtt5V.Basic
import Mqtt5V.Gen.Utf8Rule
/-! Model of `detail/utf8_mqtt.hpp` and `detail/topic_validation.hpp`.

Hand-written port with the C bit operations written as arithmetic (`b & 0x1F` = `b % 32`,
`x << 6 | y` with `y < 64` = `x * 64 + y`, `b & 0xF0` = `b / 16 * 16`); the per-character rule is the
translated `Gen.Utf8Rule.charRule`.  Result codes: 0 valid, 1 has_wildcard_character, 2 invalid. -/
namespace Mqtt5V.Model.Utf8
open Mqtt5V.Gen.Utf8Rule

/-- `(c & 0xC0) == 0x80` -/
def isCont (b : Nat) : Bool := 128 ≤ b && b < 192

/-- `pop_front_unichar` on a non-empty string: `none` = returns -1 without advancing -/
def popFront : List Nat → Option (Nat × List Nat)
  | [] => none
  | b0 :: r =>
    let n := b0 / 16 * 16
    if b0 < 128 then some (b0, r)
    else if n = 0xC0 ∨ n = 0xD0 then
      match r with
      | b1 :: r1 =>
        if isCont b1 then
          let c := (b0 % 32) * 64 + b1 % 64
          if c ≥ 0x80 then some (c, r1) else none
        else none
      | _ => none
    else if n = 0xE0 then
      match r with
      | b1 :: b2 :: r2 =>
        if isCont b1 && isCont b2 then
          let c := (b0 % 16) * 4096 + (b1 % 64) * 64 + b2 % 64
          if c ≥ 0x800 then some (c, r2) else none
        else none
      | _ => none
    else if n = 0xF0 ∧ b0 % 16 < 8 then
      match r with
      | b1 :: b2 :: b3 :: r3 =>
        if isCont b1 && isCont b2 && isCont b3 then
          let c := (b0 % 8) * 262144 + (b1 % 64) * 4096 + (b2 % 64) * 64 + b3 % 64
          if c ≥ 0x10000 ∧ c ≤ 0x10FFFF then some (c, r3) else none
        else none
      | _ => none
    else none

theorem popFront_length {bs : List Nat} {c : Nat} {r : List Nat} (h : popFront bs = some (c, r)) :
    r.length < bs.length := by
  revert h
  fun_cases popFront bs
  all_goals intro h
  all_goals first
    | (cases h; done)
    | (injection h with h; injection h with _ h; subst h; simp only [List.length_cons]; omega)

/-- the character rule applied to the result of `pop_front_unichar` (`-1` is invalid) -/
def classify (o : Option (Nat × List Nat)) : Nat :=
  match o with
  | none => 2
  | some (c, _) => charRule c

/-- the loop of `validate_impl`: stop at the first character whose class the condition rejects -/
def validateLoop (cond : Nat → Bool) (bs : List Nat) : Nat :=
  if bs.isEmpty then 0 else
  match h : popFront bs with
  | none => 2
  | some (c, r) =>
    let res := charRule c
    if cond res then validateLoop cond r else res
termination_by bs.length
decreasing_by exact popFront_length h

def isUtf8 (r : Nat) : Bool := r == 0 || r == 1
def isUtf8NoWildcard (r : Nat) : Bool := r == 0
def isValidStringSize (n : Nat) : Bool := n ≤ maxStringSize
def isValidTopicSize (n : Nat) : Bool := n != 0 && isValidStringSize n

def validateImpl (sizeOk : Nat → Bool) (cond : Nat → Bool) (bs : List Nat) : Nat :=
  if !sizeOk bs.length then 2 else validateLoop cond bs

def validateUtf8 (bs : List Nat) : Nat := validateImpl isValidStringSize isUtf8 bs
def validateTopicName (bs : List Nat) : Nat := validateImpl isValidTopicSize isUtf8NoWildcard bs
def validateTopicAliasName (bs : List Nat) : Nat := validateImpl isValidStringSize isUtf8NoWildcard bs
def validateSharedTopicName (bs : List Nat) : Nat := validateImpl (· != 0) isUtf8NoWildcard bs
def isValidStringPair (a b : List Nat) : Bool := validateUtf8 a == 0 && validateUtf8 b == 0

/-- the character loop of `validate_topic_filter` (`last` = previous code point, `none` = -1) -/
def filterLoop (last : Option Nat) (bs : List Nat) : Nat :=
  if bs.isEmpty then 0 else
  match h : popFront bs with
  | none => 2                      -- c = -1: the rule says invalid and it is not '+'
  | some (c, r) =>
    let single := c == 43 && (r.isEmpty || r.head? == some 47) && (last.isNone || last == some 47)
    if charRule c == 0 || single then filterLoop (some c) r else 2
termination_by bs.length
decreasing_by exact popFront_length h

def validateTopicFilter (bs : List Nat) : Nat :=
  if !isValidTopicSize bs.length then 2 else
  if bs.getLast? == some 35 then
    let s := bs.dropLast
    if !s.isEmpty && s.getLast? != some 47 then 2 else filterLoop none s
  else filterLoop none bs

def sharedPrefixN : List Nat := sharedPrefix.map (·.toNat)

def validateSharedTopicFilter (bs : List Nat) (wildcardAllowed : Bool) : Nat :=
  if !isValidTopicSize bs.length then 2 else
  if bs.take sharedPrefixN.length != sharedPrefixN then 2 else
  let s := bs.drop sharedPrefixN.length
  match s.idxOf? 47 with
  | none => 2
  | some i =>
    if validateSharedTopicName (s.take i) != 0 then 2 else
    let tf := s.drop (i + 1)
    if wildcardAllowed then validateTopicFilter tf else validateTopicName tf

end Mqtt5V.Model.Utf8
